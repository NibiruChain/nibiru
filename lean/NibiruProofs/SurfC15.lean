/-
  SurfC15 — GENERATED by bin/pin-surface (a developer tool) on the tree the models were written against; committed.
  The fingerprints of the functions property C15's model was written from (lib/surface.json) as they were then; the
  extractor recomputes them from /repo on every run (Generated.surface_C15).  A difference means that a modelled function
  changed structurally: the hand-written model is then no longer known to describe it, the obligation breaks and the check
  searches for a failing input (DESIGN §3, T1-S).
-/
import Generated.Facts

namespace Nibiru.Surface

def expected_C15 : List (String × String) := [
  ("x/tokenfactory/keeper/keeper.go:Keeper.GetAuthority", "7b7df0ef08cc0ab9"),
  ("x/tokenfactory/keeper/keeper.go:Keeper.Logger", "4de9582e8c3ec20e"),
  ("x/tokenfactory/keeper/keeper.go:NewKeeper", "38854f7d4ca43e89"),
  ("x/tokenfactory/keeper/msg_server.go:Keeper.Burn", "79ec1637609ab0b8"),
  ("x/tokenfactory/keeper/msg_server.go:Keeper.BurnNative", "d4a5a0e57e0c6d64"),
  ("x/tokenfactory/keeper/msg_server.go:Keeper.ChangeAdmin", "1456cdc136d6e9f2"),
  ("x/tokenfactory/keeper/msg_server.go:Keeper.CreateDenom", "ab0a0f6507602d6c"),
  ("x/tokenfactory/keeper/msg_server.go:Keeper.Mint", "35c99e8d1bfe2783"),
  ("x/tokenfactory/keeper/msg_server.go:Keeper.SetDenomMetadata", "6ab92993d6eec6b4"),
  ("x/tokenfactory/keeper/msg_server.go:Keeper.SudoSetDenomMetadata", "d80b0ead084afd3c"),
  ("x/tokenfactory/keeper/msg_server.go:Keeper.UpdateModuleParams", "a666acdbe852d64c"),
  ("x/tokenfactory/keeper/msg_server.go:Keeper.burn", "9a4ace3523fe7f91"),
  ("x/tokenfactory/keeper/msg_server.go:Keeper.mint", "a28b8dcc7bbb0f73"),
  ("x/tokenfactory/keeper/msg_server.go:errNilMsg", "7df6d91110bc09ee"),
  ("x/tokenfactory/keeper/store.go:IndexesTokenFactory.IndexerList", "4952832c9d071224"),
  ("x/tokenfactory/keeper/store.go:NewTFDenomStore", "1626b1cc35ea3f31"),
  ("x/tokenfactory/keeper/store.go:StoreAPI.GetAdmin", "0626759f0b576e1e"),
  ("x/tokenfactory/keeper/store.go:StoreAPI.GetDenomAuthorityMetadata", "c3f13e7c60f53784"),
  ("x/tokenfactory/keeper/store.go:StoreAPI.HasCreator", "9e6fccc0cec94820"),
  ("x/tokenfactory/keeper/store.go:StoreAPI.HasDenom", "266934345a77e357"),
  ("x/tokenfactory/keeper/store.go:StoreAPI.InsertDenom", "54be8c0f6a9af2b3"),
  ("x/tokenfactory/keeper/store.go:StoreAPI.unsafeGenesisInsertDenom", "dbc5c1272578b54f"),
  ("x/tokenfactory/keeper/store.go:StoreAPI.unsafeInsertDenom", "1d0a9b6dd79e9262"),
  ("x/tokenfactory/types/state.go:DefaultModuleParams", "51d5046d2276e98a"),
  ("x/tokenfactory/types/state.go:DenomFormatError", "cf8b6ae8ceb521c5"),
  ("x/tokenfactory/types/state.go:DenomStr.MustToStruct", "e8a8c89afff86a34"),
  ("x/tokenfactory/types/state.go:DenomStr.String", "3d43c875757e05b0"),
  ("x/tokenfactory/types/state.go:DenomStr.ToStruct", "479a645349c191dc"),
  ("x/tokenfactory/types/state.go:DenomStr.Validate", "f94b8ce16a59f95b"),
  ("x/tokenfactory/types/state.go:GenesisDenom.Validate", "457a961401dd9931"),
  ("x/tokenfactory/types/state.go:ModuleParams.Validate", "54d972150f07bc01"),
  ("x/tokenfactory/types/state.go:TFDenom.DefaultBankMetadata", "2806db61a4d89de2"),
  ("x/tokenfactory/types/state.go:TFDenom.Denom", "da9541502c231a5f"),
  ("x/tokenfactory/types/state.go:TFDenom.IsEqual", "aa67b940e9e019c9"),
  ("x/tokenfactory/types/state.go:TFDenom.Validate", "d53f9cc2e174904f"),
  ("x/tokenfactory/types/tx_msgs.go:MsgBurn.GetSignBytes", "126a371bd07212db"),
  ("x/tokenfactory/types/tx_msgs.go:MsgBurn.GetSigners", "5b428a2ee8178dea"),
  ("x/tokenfactory/types/tx_msgs.go:MsgBurn.Route", "13b80535015d486e"),
  ("x/tokenfactory/types/tx_msgs.go:MsgBurn.Type", "a3b93835ed491432"),
  ("x/tokenfactory/types/tx_msgs.go:MsgBurn.ValidateBasic", "2d93141f7680e16e"),
  ("x/tokenfactory/types/tx_msgs.go:MsgBurnNative.GetSignBytes", "45a7845ed9dbf224"),
  ("x/tokenfactory/types/tx_msgs.go:MsgBurnNative.GetSigners", "41ad724e02075ba5"),
  ("x/tokenfactory/types/tx_msgs.go:MsgBurnNative.Route", "46f3556ed772b15e"),
  ("x/tokenfactory/types/tx_msgs.go:MsgBurnNative.Type", "1030684859998609"),
  ("x/tokenfactory/types/tx_msgs.go:MsgBurnNative.ValidateBasic", "dfcafd060beac523"),
  ("x/tokenfactory/types/tx_msgs.go:MsgChangeAdmin.GetSignBytes", "e588316c5ccfe8ba"),
  ("x/tokenfactory/types/tx_msgs.go:MsgChangeAdmin.GetSigners", "68524a3f135009b7"),
  ("x/tokenfactory/types/tx_msgs.go:MsgChangeAdmin.Route", "8a89f0d4b96b6450"),
  ("x/tokenfactory/types/tx_msgs.go:MsgChangeAdmin.Type", "5fbcc43bf6fad8fe"),
  ("x/tokenfactory/types/tx_msgs.go:MsgChangeAdmin.ValidateBasic", "be1fe44440f3e8e8"),
  ("x/tokenfactory/types/tx_msgs.go:MsgCreateDenom.GetSignBytes", "dc186f9f195d9f8f"),
  ("x/tokenfactory/types/tx_msgs.go:MsgCreateDenom.GetSigners", "9119f000d1f730ed"),
  ("x/tokenfactory/types/tx_msgs.go:MsgCreateDenom.Route", "718746d3b7fe3042"),
  ("x/tokenfactory/types/tx_msgs.go:MsgCreateDenom.Type", "36e917a6e46ce2ee"),
  ("x/tokenfactory/types/tx_msgs.go:MsgCreateDenom.ValidateBasic", "712bccc2a636d08e"),
  ("x/tokenfactory/types/tx_msgs.go:MsgMint.GetSignBytes", "0ef1612bf8585df0"),
  ("x/tokenfactory/types/tx_msgs.go:MsgMint.GetSigners", "27bc33d153051d6a"),
  ("x/tokenfactory/types/tx_msgs.go:MsgMint.Route", "a800a8b647464d66"),
  ("x/tokenfactory/types/tx_msgs.go:MsgMint.Type", "7c1f1dd32081fc00"),
  ("x/tokenfactory/types/tx_msgs.go:MsgMint.ValidateBasic", "5af749cc18c8eee3"),
  ("x/tokenfactory/types/tx_msgs.go:MsgSetDenomMetadata.GetSignBytes", "763b5cf274858cba"),
  ("x/tokenfactory/types/tx_msgs.go:MsgSetDenomMetadata.GetSigners", "1d4122f77956b6c8"),
  ("x/tokenfactory/types/tx_msgs.go:MsgSetDenomMetadata.Route", "28fe3ae19608d5a3"),
  ("x/tokenfactory/types/tx_msgs.go:MsgSetDenomMetadata.Type", "ea940100cb132346"),
  ("x/tokenfactory/types/tx_msgs.go:MsgSetDenomMetadata.ValidateBasic", "3a91ed3963a73ae8"),
  ("x/tokenfactory/types/tx_msgs.go:MsgSudoSetDenomMetadata.GetSignBytes", "2eb4e6614f807144"),
  ("x/tokenfactory/types/tx_msgs.go:MsgSudoSetDenomMetadata.GetSigners", "5b1e62309ee6031e"),
  ("x/tokenfactory/types/tx_msgs.go:MsgSudoSetDenomMetadata.Route", "8fbf421b3cc31f34"),
  ("x/tokenfactory/types/tx_msgs.go:MsgSudoSetDenomMetadata.Type", "727e351dfa3f205f"),
  ("x/tokenfactory/types/tx_msgs.go:MsgSudoSetDenomMetadata.ValidateBasic", "f87c144b2fa84eb7"),
  ("x/tokenfactory/types/tx_msgs.go:MsgUpdateModuleParams.GetSignBytes", "013669cf8f420f93"),
  ("x/tokenfactory/types/tx_msgs.go:MsgUpdateModuleParams.GetSigners", "54ae9e574ea64db5"),
  ("x/tokenfactory/types/tx_msgs.go:MsgUpdateModuleParams.Route", "435e77694033f237"),
  ("x/tokenfactory/types/tx_msgs.go:MsgUpdateModuleParams.Type", "9ff2b865ed8ac139"),
  ("x/tokenfactory/types/tx_msgs.go:MsgUpdateModuleParams.ValidateBasic", "293fb96627aaa241"),
  ("x/tokenfactory/types/tx_msgs.go:validateCoin", "93cdf89b9ae7a49b")]

/-- 76 declarations -/
theorem fact_C15_surface_fingerprints : Generated.surface_C15 = expected_C15 := rfl

end Nibiru.Surface
