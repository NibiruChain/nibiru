/-
  SurfC16 — GENERATED by bin/pin-surface (a developer tool) on the tree the models were written against; committed.
  The fingerprints of the functions property C16's model was written from (lib/surface.json) as they were then; the
  extractor recomputes them from /repo on every run (Generated.surface_C16).  A difference means that a modelled function
  changed structurally: the hand-written model is then no longer known to describe it, the obligation breaks and the check
  searches for a failing input (DESIGN §3, T1-S).
-/
import Generated.Facts

namespace Nibiru.Surface

def expected_C16 : List (String × String) := [
  ("x/inflation/keeper/sudo.go:sudoExtension.EditInflationParams", "6a47da66f52e51ea"),
  ("x/inflation/keeper/sudo.go:sudoExtension.ToggleInflation", "d4c0342eceb1c7c2"),
  ("x/oracle/keeper/msg_server.go:msgServer.EditOracleParams", "629384ba1aca8fe4"),
  ("x/sudo/keeper/keeper.go:Keeper.AddContracts", "1df1e02697e69ec2"),
  ("x/sudo/keeper/keeper.go:Keeper.CheckPermissions", "41d6ab896cf3c5e0"),
  ("x/sudo/keeper/keeper.go:Keeper.GetRootAddr", "f0942d94d47b5405"),
  ("x/sudo/keeper/keeper.go:Keeper.RemoveContracts", "28bd645907e7d6d6"),
  ("x/sudo/keeper/keeper.go:Keeper.senderHasPermission", "d7f2900aa2f30263"),
  ("x/sudo/keeper/keeper.go:NewKeeper", "a9b52e331da2dea1"),
  ("x/sudo/keeper/msg_server.go:MsgServer.ChangeRoot", "b9e0b84b0595b0f9"),
  ("x/sudo/keeper/msg_server.go:MsgServer.EditSudoers", "ed7c01ea78fe148c"),
  ("x/sudo/keeper/msg_server.go:MsgServer.validateRootPermissions", "7cd80994f28e1de5"),
  ("x/sudo/keeper/msg_server.go:NewMsgServer", "9e7cf8a95f0f53d3"),
  ("x/sudo/keeper/msg_server.go:Sudoers.AddContracts", "2243cb60bab6e6df"),
  ("x/sudo/keeper/msg_server.go:Sudoers.RemoveContracts", "8d32df0bfd2d42fc"),
  ("x/sudo/keeper/msg_server.go:Sudoers.String", "344b1a8d69cd881c"),
  ("x/sudo/keeper/msg_server.go:Sudoers.ToPb", "da40185025a614e5"),
  ("x/sudo/keeper/msg_server.go:SudoersFromPb", "53c885ab48a34d77"),
  ("x/sudo/keeper/msg_server.go:SudoersValueEncoder", "83e1ed9279600b03"),
  ("x/sudo/types/msgs.go:MsgChangeRoot.GetSignBytes", "a62064a1db7ace7c"),
  ("x/sudo/types/msgs.go:MsgChangeRoot.GetSigners", "9b754a1b97fedec2"),
  ("x/sudo/types/msgs.go:MsgChangeRoot.Route", "877ec0bec7ed4299"),
  ("x/sudo/types/msgs.go:MsgChangeRoot.Type", "ed16da984ebb4ec4"),
  ("x/sudo/types/msgs.go:MsgChangeRoot.ValidateBasic", "8d651bae39898b84"),
  ("x/sudo/types/msgs.go:MsgEditSudoers.GetSignBytes", "8516470b72121dc6"),
  ("x/sudo/types/msgs.go:MsgEditSudoers.GetSigners", "f9e7df70f1150877"),
  ("x/sudo/types/msgs.go:MsgEditSudoers.RootAction", "f91cd02e19949289"),
  ("x/sudo/types/msgs.go:MsgEditSudoers.Route", "e6c0284868fb44cf"),
  ("x/sudo/types/msgs.go:MsgEditSudoers.Type", "e1f7e8adf04907cb"),
  ("x/sudo/types/msgs.go:MsgEditSudoers.ValidateBasic", "13d47d8b1b5622d5"),
  ("x/tokenfactory/keeper/msg_server.go:Keeper.SudoSetDenomMetadata", "d80b0ead084afd3c")]

/-- 31 declarations -/
theorem fact_C16_surface_fingerprints : Generated.surface_C16 = expected_C16 := rfl

end Nibiru.Surface
