/-
  C17 — No transaction can set a validator commission above the 25% cap.
  Theorems about NibiruModel.MsgTree (AnteDecoratorStakingCommission and the routers that execute nested messages).
-/
import NibiruProofs.MsgTreeLemmas
import Generated.Facts
namespace Nibiru.MsgTree

/-- every validator's commission is within the cap -/
def CapInv (s : State) : Prop := ∀ x ∈ s.commission, x.2 ≤ cap

mutual
/-- trees in which no message is dispatched by a wasm contract (that router runs no ante at all: known finding) -/
def NoWasm : Msg → Prop
  | .wasm _ _ _ => False
  | .exec _ inner => NoWasms inner
  | .proposal _ inner => NoWasms inner
  | _ => True
def NoWasms : List Msg → Prop
  | [] => True
  | m :: ms => NoWasm m ∧ NoWasms ms
end

theorem NoWasms_iff (ms : List Msg) : NoWasms ms ↔ ∀ m ∈ ms, NoWasm m := by
  induction ms with
  | nil => simp [NoWasms]
  | cons m ms ih => simp [NoWasms, ih]

theorem guardCommissionAll_iff (ms : List Msg) : guardCommissionAll ms = true ↔ ∀ m ∈ ms, guardCommission m = true := by
  induction ms with
  | nil => simp [guardCommissionAll]
  | cons m ms ih => simp [guardCommissionAll, ih]

theorem _root_.Nibiru.AList.mem_set {κ ν : Type} [DecidableEq κ] (l : AList κ ν) (k : κ) (v : ν) (y : κ × ν) (h : y ∈ AList.set l k v) :
    y = (k, v) ∨ y ∈ l := by
  induction l with
  | nil => exact .inl (List.mem_singleton.mp h)
  | cons z zs ih =>
    unfold AList.set at h
    split at h
    · exact (List.mem_cons.mp h).imp_right (List.mem_cons_of_mem _)
    · exact (List.mem_cons.mp h).elim (fun e => .inr (e ▸ List.mem_cons_self)) (fun e => (ih e).imp_right (List.mem_cons_of_mem _))

/-- a message that passes the (recursive) commission guard and contains no wasm dispatch keeps every commission within the cap -/
theorem cap_preserved : Preserved CapInv (fun m => guardCommission m = true ∧ NoWasm m) where
  eth := fun _ _ hc _ => hc
  comm := fun _ _ _ hc ha x hx => (AList.mem_set _ _ _ x hx).elim (fun e => e ▸ of_decide_eq_true ha.1) (hc x)
  grant := fun _ _ _ _ hc _ => hc
  exec := fun _ _ inner m _ ha hm _ => ⟨(guardCommissionAll_iff inner).mp ha.1 m hm, (NoWasms_iff inner).mp ha.2 m hm⟩
  wasm := fun _ _ _ _ ha => ha.2.elim

theorem dispatch_cap (ms : List Msg) (s s' : State) (g : Nat) (hc : CapInv s) (hg : guardCommissionAll ms = true)
    (hw : NoWasms ms) (h : dispatch s g ms = some s') : CapInv s' :=
  run_preserves cap_preserved (.exec g ms) s s' hc ⟨hg, hw⟩ h

/-- **C17 (authz at any depth).** With the decorator looking through MsgExec, an accepted tx whose staking messages are at top
    level or nested in MsgExec to any depth (and in submitted proposals, whose content is not executed at submission) leaves
    every validator's commission within 25% if it was before. -/
theorem C17_cap_authz (s s' : State) (tx : Tx) (hc : CapInv s) (hw : NoWasms tx.msgs)
    (h : deliver .throughExec s tx = some s') : CapInv s' := by
  rcases deliver_some _ s s' tx h with ⟨_, _, e⟩ | ⟨_, _, hcg, hrun⟩
  · subst e; exact hc
  · exact runAll_preserves cap_preserved tx.msgs s s' hc
      (fun m hm => ⟨List.all_eq_true.mp hcg m hm, (NoWasms_iff _).mp hw m hm⟩) hrun

/-- **Counterexample for the decorator as it was** (top-level messages only; repaired by the `fix:` commit and replayed on the real
    app before the repair): the operator executes its own MsgEditValidator through authz — no grant is needed when the inner
    signer is the grantee — and sets a 100% commission. -/
theorem C17_counterexample_authz_self_exec_before_fix :
    ∃ s', deliver .topOnly {} { evmExt := false, sigOk := true, msgs := [.exec 1 [.exec 1 [.comm 1 1000000000000000000]]] } = some s' ∧
      (1, 1000000000000000000) ∈ s'.commission := by
  exact ⟨_, rfl, by decide⟩

/-- the same tx is refused by the repaired decorator -/
theorem C17_authz_self_exec_refused_after_fix :
    deliver .throughExec {} { evmExt := false, sigOk := true, msgs := [.exec 1 [.exec 1 [.comm 1 1000000000000000000]]] } = none := by decide

/-- **Counterexample that remains (known finding C17-wasm-stargate)**: a contract that is a validator operator dispatches its own
    staking message; the wasm message handler routes it without any ante handler, so the cap is not enforced. -/
theorem C17_counterexample_wasm_dispatch :
    ∃ s', deliver .throughExec {} { evmExt := false, sigOk := true, msgs := [.wasm 2 3 [.comm 3 1000000000000000000]] } = some s' ∧
      (3, 1000000000000000000) ∈ s'.commission := by
  exact ⟨_, rfl, by decide⟩

/-! ### T1 (regenerated from app/ante/commission.go and app/ante.go on every run) -/

theorem fact_C17_decorator_looks_through_exec :
    guardOfFacts Generated.commissionDecoratorCases = .throughExec := by decide +kernel

/-- every exit from the scan of a message list is an error return: a cap violation, an unpacking error, or an error found in the
    messages of a MsgExec; nothing else ends the loop early (`guardCommissionAll` scans to the end of the list) -/
theorem fact_C17_scan_ends_early_only_with_an_error : Generated.commissionDecoratorReturns =
    ["range msgs / case *stakingtypes.MsgCreateValidator / if rate.GT(MAX_COMMISSION()) / return NewErrMaxValidatorCommission(rate)",
     "range msgs / case *stakingtypes.MsgEditValidator / if rate != nil && msg.CommissionRate.GT(MAX_COMMISSION()) / return NewErrMaxValidatorCommission(*rate)",
     "range msgs / case *authz.MsgExec / if err != nil / return err",
     "range msgs / case *authz.MsgExec / if err != nil / return err",
     "range msgs / default / continue",
     "return nil"] := rfl

theorem fact_C17_decorator_in_chain : Generated.anteChainNonEVM.count "ante.AnteDecoratorStakingCommission" = 1 := by decide +kernel

end Nibiru.MsgTree
