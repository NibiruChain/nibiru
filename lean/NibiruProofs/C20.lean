/-
  C20 — exported state re-imports to the same state for every Nibiru module.

  PARTIAL.  Proved over NibiruModel.Genesis:
    * (T1) every `collections` field of every custom module's keeper, as re-read from the source on every run, is classified
      (exported / normalised / transient / derived / dropped) and ExportGenesis / InitGenesis mention it as its class requires;
      a field that is added, or dropped from an export, breaks this obligation;
    * for every module state, a second export after import equals the first export (for exported fields entry by entry; for
      normalised fields — oracle exchange rates, epochs — on the projection the export keeps), whatever the import context stamps;
    * the oracle's reward sequence: with the expression the source stores at import, the next reward id is fresh (does not collide
      with an imported reward); counterexample for the expression as it was (repaired by a fix: commit).
  NOT proved: that the Go Init/ExportGenesis code implements `exportG` / `initG` per field (tied by the full-application
  export → InitChain → export differential run), and the reachability side ("every reachable state").
-/
import NibiruModel.Genesis
import Generated.Facts

namespace Nibiru.Genesis
open Nibiru

/-- (T1) the regenerated field table is completely classified and consistent with the classes -/
theorem fact_C20_store_fields_classified : tableOk Generated.storeFields = true := by decide +kernel

/-- lookup in a table `x ↦ F x` over the keys `fs`, followed by anything: the first entry with the key decides, so the keys
    need not be distinct -/
theorem get_tab (fs : List String) (F : String → Entries) (rest : ModState) (f : String) :
    get (fs.map (fun x => (x, F x)) ++ rest) f = if f ∈ fs then F f else get rest f := by
  induction fs with
  | nil => rfl
  | cons a t ih =>
    unfold get at ih ⊢
    by_cases h : a = f
    · simp [AList.find?, h]
    · simp [AList.find?, h, Ne.symm h, ih]

/-- the one fact about the table `expected` that the round trip needs: no field is listed both as normalised and as exported -/
theorem expected_normalised_not_exported : ∀ x ∈ expected, x.2.2 = .normalised → ∀ y ∈ expected, y.2.2 = .exported →
    ¬ (x.1 = y.1 ∧ x.2.1 = y.2.1) := by decide +kernel

theorem normalised_not_exported (m f : String) (h : f ∈ fieldsOf m .normalised) : f ∉ fieldsOf m .exported := by
  simp only [fieldsOf, List.mem_map, List.mem_filter, decide_eq_true_eq] at h ⊢
  obtain ⟨x, ⟨hx, hxm, hxc⟩, rfl⟩ := h
  rintro ⟨y, ⟨hy, hym, hyc⟩, hyf⟩
  exact expected_normalised_not_exported x hx hxc y hy hyc ⟨hxm.trans hym.symm, hyf.symm⟩

/-! what the export and the import hold at a field, by its class -/

theorem get_exportG_exported (m : String) (norm : String → String) (s : ModState) (f : String)
    (hf : f ∈ fieldsOf m .exported) : get (exportG m norm s) f = get s f := by
  rw [exportG, get_tab, if_pos hf]

theorem get_exportG_normalised (m : String) (norm : String → String) (s : ModState) (f : String)
    (hf : f ∈ fieldsOf m .normalised) : get (exportG m norm s) f = (get s f).map (fun kv => (kv.1, norm kv.2)) := by
  rw [exportG, get_tab, if_neg (normalised_not_exported m f hf), ← List.append_nil (List.map _ (fieldsOf m .normalised)),
    get_tab, if_pos hf]

theorem get_initG_exported (m : String) (stamp : String → String) (derive : String → ModState → Entries) (g : ModState)
    (f : String) (hf : f ∈ fieldsOf m .exported) : get (initG m stamp derive g) f = get g f := by
  rw [initG, List.append_assoc, get_tab, if_pos hf]

theorem get_initG_normalised (m : String) (stamp : String → String) (derive : String → ModState → Entries) (g : ModState)
    (f : String) (hf : f ∈ fieldsOf m .normalised) :
    get (initG m stamp derive g) f = (get g f).map (fun kv => (kv.1, stamp kv.2)) := by
  rw [initG, List.append_assoc, get_tab, if_neg (normalised_not_exported m f hf), get_tab, if_pos hf]

/-- the export reads the state only at the exported fields and, through `norm`, at the normalised ones -/
theorem exportG_congr (m : String) (norm : String → String) (s s' : ModState)
    (hE : ∀ f ∈ fieldsOf m .exported, get s f = get s' f)
    (hN : ∀ f ∈ fieldsOf m .normalised,
      (get s f).map (fun kv => (kv.1, norm kv.2)) = (get s' f).map (fun kv => (kv.1, norm kv.2))) :
    exportG m norm s = exportG m norm s' := by
  unfold exportG
  congr 1
  · exact List.map_congr_left fun f hf => by rw [hE f hf]
  · exact List.map_congr_left fun f hf => by rw [hN f hf]

/-- the round trip for every module name (for a name that is not a custom module all field lists are empty) -/
theorem exportG_initG_exportG (m : String) (norm stamp : String → String) (derive : String → ModState → Entries)
    (hns : ∀ v, norm (stamp (norm v)) = norm v) (s : ModState) :
    exportG m norm (initG m stamp derive (exportG m norm s)) = exportG m norm s := by
  apply exportG_congr
  · intro f hf
    rw [get_initG_exported m stamp derive _ f hf, get_exportG_exported m norm s f hf]
  · intro f hf
    rw [get_initG_normalised m stamp derive _ f hf, get_exportG_normalised m norm s f hf, List.map_map, List.map_map]
    exact List.map_congr_left fun kv _ => by simp only [Function.comp, hns]

/-- **C20 (second export = first export).** For every custom module and every state of its stores: export, import into a fresh
    store (any re-stamping of normalised values, any rebuilding of derived fields), export again — the two exports are equal,
    provided the export's projection forgets exactly what the import re-stamps (`norm (stamp (norm v)) = norm v`). -/
theorem C20_second_export_equals_first (m : String)
    (hm : m ∈ ["evm", "oracle", "tokenfactory", "sudo", "inflation", "epochs", "devgas"])
    (norm stamp : String → String) (derive : String → ModState → Entries)
    (hns : ∀ v, norm (stamp (norm v)) = norm v) (s : ModState) :
    exportG m norm (initG m stamp derive (exportG m norm s)) = exportG m norm s :=
  exportG_initG_exportG m norm stamp derive hns s

/-! ### the oracle reward sequence after import -/

/-- the expression the source stores today -/
def rewardsExprNow : String := (Generated.oracleRewardsIDInit.head?).getD ""

/-- (T1) InitGenesis stores "last id + 1" -/
theorem fact_C20_rewards_id_expr : Generated.oracleRewardsIDInit = ["data.Rewards[len(data.Rewards)-1].Id + 1"] := rfl

theorem mem_le_getLast (ids : List Nat) (h : ids.Pairwise (· < ·)) (last : Nat) (hl : ids.getLast? = some last) :
    ∀ x ∈ ids, x ≤ last := by
  obtain ⟨front, rfl⟩ := List.getLast?_eq_some_iff.mp hl
  intro x hx
  rcases List.mem_append.mp hx with hf | hlast
  · exact Nat.le_of_lt ((List.pairwise_append.mp h).2.2 x hf last (List.mem_singleton_self last))
  · exact Nat.le_of_eq (List.mem_singleton.mp hlast)

/-- **C20 (oracle rewards).** With the expression the source stores, the id that the next `AllocateRewards` hands out after an
    import is not the id of any imported reward (the rewards are exported in key order), so no pending reward is overwritten. -/
theorem C20_next_reward_id_fresh (ids : List Nat) (h : ids.Pairwise (· < ·)) (stored : Nat)
    (hs : rewardsIdInit "data.Rewards[len(data.Rewards)-1].Id + 1" ids = some stored) :
    (seqNext stored).1 ∉ ids := by
  unfold rewardsIdInit at hs
  cases hl : ids.getLast? with
  | none => simp [hl] at hs
  | some last =>
    simp only [hl, true_or, if_true, Option.some.injEq] at hs
    subst hs
    intro hmem
    have := mem_le_getLast ids h last hl _ hmem
    simp only [seqNext] at this
    omega

/-- the expression as it was: the next id IS the last imported reward's id (replayed on the real app: the pending reward is
    overwritten by the next allocation) -/
theorem C20_counterexample_reward_id_collides_before_fix :
    ∃ stored, rewardsIdInit "data.Rewards[len(data.Rewards)-1].Id" [1, 2, 3] = some stored ∧ (seqNext stored).1 ∈ [1, 2, 3] := by
  exact ⟨3, by decide +kernel, by decide⟩

/-! ### non-vacuity -/
example : exportG "oracle" id [("Rewards", [("1", "r1")]), ("PriceSnapshots", [("k", "v")]), ("ExchangeRates", [("p", "rate")])]
    = [("FeederDelegations", []), ("MissCounters", []), ("Params", []), ("Prevotes", []), ("Rewards", [("1", "r1")]),
       ("Votes", []), ("WhitelistedPairs", []), ("ExchangeRates", [("p", "rate")])] := by decide +kernel

end Nibiru.Genesis
