/-
  SDBTx — the last step of the C03 refinement: what Nibiru's `Commit` and go-ethereum's end-of-transaction write-back persist
  after the same transaction body.

  1. `journal.dirties` is exactly the per-address count of the surviving journal entries that dirtied the address — through
     appends, and through `journal.Revert`, which decrements per reverted entry and deletes at zero (`CntOK`, `DJ`); every dirtied
     address still has its object cached (`EC`) — induction over any body (`runT_tx`).
  2. Relational invariants with the reference state: every address a surviving entry dirtied is materialised in the reference's
     transaction state (`JG`); an address no surviving entry dirtied shows exactly what the store holds (`Clean`) — `runT_full`.
  3. Per address: what `Commit` writes (SDBCommit, SDBWF) against what `GethSpec.commit` writes (SDBSpecCommit):
     `C03_transaction_commit_matches_reference_partial`.
-/
import NibiruProofs.SDBWF
import NibiruProofs.SDBSpecCommit

namespace Nibiru.SDB
open Nibiru

/-! ### the dirty counts are the per-address counts of the journal -/

def cnt (a : Nat) (J : List Entry) : Nat := (J.filter (fun e => decide (e.dirtied = some a))).length

def CntOK (d : List (Nat × Int)) (J : List Entry) : Prop :=
  ∀ a, AList.find? d a = if cnt a J = 0 then none else some ((cnt a J : Nat) : Int)

/-- the bookkeeping half of `journal.append` -/
def bumpStep (d : List (Nat × Int)) (e : Entry) : List (Nat × Int) :=
  match e.dirtied with
  | some a => bumpDirty d a 1
  | none => d

/-- the bookkeeping half of one iteration of `journal.Revert` -/
def unStep (d : List (Nat × Int)) (e : Entry) : List (Nat × Int) :=
  match e.dirtied with
  | some a => unDirty d a
  | none => d

theorem cnt_append (a : Nat) (J : List Entry) (e : Entry) :
    cnt a (J ++ [e]) = cnt a J + (if e.dirtied = some a then 1 else 0) := by
  unfold cnt
  rw [List.filter_append, List.length_append]
  by_cases h : e.dirtied = some a
  · simp [h]
  · simp [h]

theorem cntOK_bump (d : List (Nat × Int)) (J : List Entry) (e : Entry) (h : CntOK d J) : CntOK (bumpStep d e) (J ++ [e]) := by
  intro a
  rw [cnt_append]
  unfold bumpStep
  cases he : e.dirtied with
  | none =>
    have : ¬ (none : Option Nat) = some a := by simp
    simp only [this, if_false, Nat.add_zero]
    exact h a
  | some a0 =>
    simp only
    by_cases ha : a0 = a
    · subst ha
      simp only [if_true]
      unfold bumpDirty
      rw [AList.find?_set_self, h a0]
      have hne : cnt a0 J + 1 ≠ 0 := by omega
      simp only [hne, if_false]
      by_cases hz : cnt a0 J = 0
      · simp [hz]
      · simp only [hz, if_false, Option.getD_some]
        congr 1
    · have hne : ¬ (some a0 = some a) := fun e' => ha (Option.some.inj e')
      simp only [hne, if_false, Nat.add_zero]
      unfold bumpDirty
      rw [AList.find?_set_ne _ _ _ _ ha]
      exact h a

theorem cntOK_un (d : List (Nat × Int)) (J : List Entry) (e : Entry) (h : CntOK d (J ++ [e])) : CntOK (unStep d e) J := by
  intro a
  have ha := h a
  rw [cnt_append] at ha
  unfold unStep
  cases he : e.dirtied with
  | none =>
    rw [he] at ha
    have : ¬ (none : Option Nat) = some a := by simp
    simp only [this, if_false, Nat.add_zero] at ha
    exact ha
  | some a0 =>
    rw [he] at ha
    simp only
    by_cases haa : a0 = a
    · subst haa
      simp only [if_true] at ha
      have hne : cnt a0 J + 1 ≠ 0 := by omega
      simp only [hne, if_false] at ha
      unfold unDirty
      rw [ha]
      simp only [Option.getD_some]
      by_cases hz : cnt a0 J = 0
      · have : ((cnt a0 J + 1 : Nat) : Int) - 1 = 0 := by rw [hz]; rfl
        simp only [this, if_true, hz]
        exact AList.find?_erase_self _ _
      · have hc : ((cnt a0 J + 1 : Nat) : Int) - 1 = ((cnt a0 J : Nat) : Int) := by omega
        have hnz : ¬ ((cnt a0 J : Nat) : Int) = 0 := by omega
        rw [hc]
        simp only [hnz, if_false, hz]
        exact AList.find?_set_self _ _ _
    · have hne : ¬ (some a0 = some a) := fun e' => haa (Option.some.inj e')
      simp only [hne, if_false, Nat.add_zero] at ha
      unfold unDirty
      simp only
      split
      · rw [AList.find?_erase_ne _ _ _ haa]; exact ha
      · rw [AList.find?_set_ne _ _ _ _ haa]; exact ha

/-- the dirty-count half of `journal.Revert` over a suffix, newest entry first -/
theorem cntOK_unfold (r : List Entry) (J : List Entry) (d : List (Nat × Int)) (h : CntOK d (J ++ r.reverse)) :
    CntOK (r.foldl unStep d) J := by
  induction r generalizing d with
  | nil => simpa using h
  | cons e t ih =>
    simp only [List.foldl_cons]
    apply ih
    have : J ++ (e :: t).reverse = (J ++ t.reverse) ++ [e] := by simp
    rw [this] at h
    exact cntOK_un d _ e h

theorem cntOK_folds (es : List Entry) (J : List Entry) (d : List (Nat × Int)) (h : CntOK d J) : CntOK (es.foldl bumpStep d) (J ++ es) := by
  induction es generalizing d J with
  | nil => simpa using h
  | cons e t ih =>
    simp only [List.foldl_cons]
    have := ih (J ++ [e]) (bumpStep d e) (cntOK_bump d J e h)
    simpa using this

/-- `DJ s`: the invariant on a StateDB -/
def DJ (s : S) : Prop := CntOK s.dirties s.journal

theorem dj_mem (s : S) (h : DJ s) (a : Nat) : a ∈ s.dirties.map (·.1) ↔ ∃ e ∈ s.journal, e.dirtied = some a := by
  have ha := h a
  constructor
  · intro hin
    have hne : AList.find? s.dirties a ≠ none := fun e => (find?_none_iff s.dirties a).mp e hin
    by_cases hz : cnt a s.journal = 0
    · rw [hz] at ha; simp at ha; exact absurd ha hne
    · unfold cnt at hz
      have : (s.journal.filter (fun e => decide (e.dirtied = some a))) ≠ [] := fun e => hz (by rw [e]; rfl)
      obtain ⟨e, he⟩ := List.exists_mem_of_ne_nil _ this
      have := List.mem_filter.mp he
      exact ⟨e, this.1, by simpa using this.2⟩
  · intro ⟨e, he, hd⟩
    have hpos : cnt a s.journal ≠ 0 := by
      unfold cnt
      have hmem : e ∈ s.journal.filter (fun e => decide (e.dirtied = some a)) := List.mem_filter.mpr ⟨he, by simpa using hd⟩
      intro hz
      have hnil := List.eq_nil_of_length_eq_zero hz
      rw [hnil] at hmem
      cases hmem
    simp only [hpos, if_false] at ha
    apply Classical.byContradiction
    intro hnot
    have := (find?_none_iff s.dirties a).mpr hnot
    rw [this] at ha
    cases ha

/-- `s'` was obtained from `s` by appending `es` to the journal (and by operations that touch neither the journal nor the counts) -/
def Appended (s s' : S) (es : List Entry) : Prop := s'.journal = s.journal ++ es ∧ s'.dirties = es.foldl bumpStep s.dirties

theorem Appended.refl (s : S) : Appended s s [] := ⟨by simp, rfl⟩

theorem Appended.trans {s s1 s2 : S} {e1 e2 : List Entry} (h1 : Appended s s1 e1) (h2 : Appended s1 s2 e2) : Appended s s2 (e1 ++ e2) :=
  ⟨by rw [h2.1, h1.1, List.append_assoc], by rw [h2.2, h1.2, List.foldl_append]⟩

theorem Appended.dj {s s' : S} {es : List Entry} (h : Appended s s' es) (hd : DJ s) : DJ s' := by
  unfold DJ
  rw [h.1, h.2]
  exact cntOK_folds es _ _ hd

theorem appended_append (s : S) (e : Entry) : Appended s (append s e) [e] := ⟨rfl, rfl⟩

theorem appended_same {s t : S} (hj : t.journal = s.journal) (hd : t.dirties = s.dirties) : Appended s t [] := ⟨by simp [hj], hd⟩

theorem getObj_dj (s : S) (a : Nat) : (getObj s a).1.journal = s.journal ∧ (getObj s a).1.dirties = s.dirties := by
  unfold getObj
  split
  · exact ⟨rfl, rfl⟩
  · split <;> exact ⟨rfl, rfl⟩

/-! ### what each operation appends, and which objects it leaves cached -/

theorem appended_getOrNew (s : S) (a : Nat) :
    ∃ es, Appended s (getOrNew s a).1 es ∧ (es = [] ∨ es = [.createObject a]) := by
  obtain ⟨j, d⟩ := getObj_dj s a
  unfold getOrNew
  rcases hg : getObj s a with ⟨s1, _ | o⟩
  · rw [hg] at j d
    dsimp only
    refine ⟨[.createObject a], ?_, Or.inr rfl⟩
    have h1 : Appended s s1 [] := appended_same j d
    have h2 : Appended s1 (setObj (append s1 (.createObject a)) a {}) [.createObject a] := ⟨rfl, rfl⟩
    simpa using h1.trans h2
  · rw [hg] at j d
    exact ⟨[], appended_same j d, Or.inl rfl⟩

/-- an account write of the interpreter: everything it appends dirties `a` and is not a `PrecompileCalled`; `a` is cached afterwards
    unless nothing happened at all; every other object is untouched -/
structure Desc (s s' : S) (a : Nat) : Prop where
  es : ∃ es, Appended s s' es ∧ ∀ e ∈ es, e.plain = true ∧ e.dirtied = some a
  cachedA : (∃ o, AList.find? s'.objs a = some o) ∨ s'.journal = s.journal
  keepsA : ∀ o, AList.find? s.objs a = some o → ∃ o', AList.find? s'.objs a = some o'
  other : ∀ b, a ≠ b → AList.find? s'.objs b = AList.find? s.objs b

theorem desc_field (s : S) (a : Nat) (e : Entry) (o' : Obj) (hp : e.plain = true) (hd : e.dirtied = some a) :
    Desc s (setObj (append (getOrNew s a).1 e) a o') a := by
  obtain ⟨pre, hpre, hcase⟩ := appended_getOrNew s a
  refine ⟨⟨pre ++ [e], ?_, ?_⟩, Or.inl ⟨o', find_setObj_same _ _ _⟩, fun _ _ => ⟨o', find_setObj_same _ _ _⟩, fun b hab => ?_⟩
  · have h2 : Appended (getOrNew s a).1 (setObj (append (getOrNew s a).1 e) a o') [e] := ⟨rfl, rfl⟩
    exact hpre.trans h2
  · intro x hx
    rcases List.mem_append.mp hx with h | h
    · rcases hcase with e0 | e1
      · rw [e0] at h; cases h
      · rw [e1] at h; simp only [List.mem_singleton] at h; subst h; exact ⟨rfl, rfl⟩
    · simp only [List.mem_singleton] at h; subst h; exact ⟨hp, hd⟩
  · rw [find_setObj_other _ _ _ _ hab]
    exact (getOrNew_other s a b hab).2.2

theorem desc_noentry (s : S) (a : Nat) (o' : Obj) : Desc s (setObj (getOrNew s a).1 a o') a := by
  obtain ⟨pre, hpre, hcase⟩ := appended_getOrNew s a
  refine ⟨⟨pre, ⟨hpre.1, hpre.2⟩, ?_⟩, Or.inl ⟨o', find_setObj_same _ _ _⟩, fun _ _ => ⟨o', find_setObj_same _ _ _⟩, fun b hab => ?_⟩
  · intro x hx
    rcases hcase with e0 | e1
    · rw [e0] at hx; cases hx
    · rw [e1] at hx; simp only [List.mem_singleton] at hx; subst hx; exact ⟨rfl, rfl⟩
  · rw [find_setObj_other _ _ _ _ hab]
    exact (getOrNew_other s a b hab).2.2

theorem desc_getOrNew (s : S) (a : Nat) : Desc s (getOrNew s a).1 a := by
  obtain ⟨pre, hpre, hcase⟩ := appended_getOrNew s a
  obtain ⟨_, _, _, hfind⟩ := getOrNew_shape s a
  refine ⟨⟨pre, hpre, ?_⟩, Or.inl ⟨_, hfind⟩, fun _ _ => ⟨_, hfind⟩, fun b hab => (getOrNew_other s a b hab).2.2⟩
  intro x hx
  rcases hcase with e0 | e1
  · rw [e0] at hx; cases hx
  · rw [e1] at hx; simp only [List.mem_singleton] at hx; subst hx; exact ⟨rfl, rfl⟩

theorem desc_applyW (s : S) (w : WOp) (a : Nat) (hacct : w.acct = some a) : Desc s (applyW s w) a := by
  cases w with
  | addLog => cases hacct
  | addRefund g => cases hacct
  | subRefund g => cases hacct
  | addAddr a' => cases hacct
  | addSlot a' k => cases hacct
  | addBalance a' d =>
    have : a' = a := by injection hacct
    subst this
    show Desc s (addBalance s a' d) a'
    rw [addBalance_eq]
    by_cases hd : d = 0
    · simp only [hd, if_true]; exact desc_getOrNew s a'
    · simp only [hd, if_false]; exact desc_field s a' _ _ rfl rfl
  | setNonce a' n =>
    have : a' = a := by injection hacct
    subst this
    show Desc s (setNonce s a' n) a'
    rw [setNonce_eq]; exact desc_field s a' _ _ rfl rfl
  | setCode a' c =>
    have : a' = a := by injection hacct
    subst this
    show Desc s (setCode s a' c) a'
    rw [setCode_eq]; exact desc_field s a' _ _ rfl rfl
  | setState a' k v =>
    have : a' = a := by injection hacct
    subst this
    show Desc s (setState s a' k v) a'
    rw [setState_eq]
    by_cases hv : objState (getOrNew s a').1 a' (getOrNew s a').2 k = v
    · simp only [hv, if_true]; exact desc_noentry s a' _
    · simp only [hv, if_false]; exact desc_field s a' _ _ rfl rfl
  | suicide a' =>
    have : a' = a := by injection hacct
    subst this
    show Desc s (suicide s a').1 a'
    obtain ⟨j, d⟩ := getObj_dj s a'
    obtain ⟨_, g2, _, _, _⟩ := getObj_shape s a'
    unfold suicide
    rcases hg : getObj s a' with ⟨s1, _ | o⟩
    · have e1 : (getObj s a').1 = s1 := by rw [hg]
      rw [e1] at j d g2
      dsimp only
      refine ⟨⟨[], appended_same j d, by simp⟩, Or.inr j, fun o ho => ?_, fun b hab => ?_⟩
      · obtain ⟨o', f', _⟩ := g2.objs a' o ho; exact ⟨o', f'⟩
      · have := (getObj_other s a' b hab).2.2; rw [e1] at this; exact this
    · have e1 : (getObj s a').1 = s1 := by rw [hg]
      rw [e1] at j d
      dsimp only
      refine ⟨⟨[.suicide a' o.suicided o.balance], ?_, ?_⟩, Or.inl ⟨_, find_setObj_same _ _ _⟩, fun _ _ => ⟨_, find_setObj_same _ _ _⟩,
        fun b hab => ?_⟩
      · have h1 : Appended s s1 [] := appended_same j d
        have h2 : Appended s1 (setObj (append s1 (.suicide a' o.suicided o.balance)) a' { o with suicided := true, balance := 0 })
            [.suicide a' o.suicided o.balance] := ⟨rfl, rfl⟩
        simpa using h1.trans h2
      · intro x hx; simp only [List.mem_singleton] at hx; subst hx; exact ⟨rfl, rfl⟩
      · rw [find_setObj_other _ _ _ _ hab]
        have := (getObj_other s a' b hab).2.2; rw [e1] at this; exact this

/-- the counters: nothing they append dirties an address, no object is touched -/
theorem desc_counter (s : S) (w : WOp) (hacct : w.acct = none) :
    (∃ es, Appended s (applyW s w) es ∧ ∀ e ∈ es, e.plain = true ∧ e.dirtied = none) ∧
    ∀ b, AList.find? (applyW s w).objs b = AList.find? s.objs b := by
  refine ⟨?_, fun b => (applyW_other s w b (by rw [hacct]; simp)).2.2⟩
  cases w with
  | addBalance a d => cases hacct
  | setNonce a n => cases hacct
  | setCode a c => cases hacct
  | setState a k v => cases hacct
  | suicide a => cases hacct
  | addLog => exact ⟨[.addLog], ⟨rfl, rfl⟩, by simp [Entry.plain, Entry.dirtied]⟩
  | addRefund g => exact ⟨[.refund s.refund], ⟨rfl, rfl⟩, by simp [Entry.plain, Entry.dirtied]⟩
  | subRefund g =>
    show ∃ es, Appended s ((subRefund s g).getD s) es ∧ _
    unfold subRefund
    split
    · exact ⟨[], Appended.refl s, by simp⟩
    · exact ⟨[.refund s.refund], ⟨rfl, rfl⟩, by simp [Entry.plain, Entry.dirtied]⟩
  | addAddr a =>
    show ∃ es, Appended s (addAddr s a) es ∧ _
    unfold addAddr
    split
    · exact ⟨[], Appended.refl s, by simp⟩
    · exact ⟨[.alAddr a], ⟨rfl, rfl⟩, by simp [Entry.plain, Entry.dirtied]⟩
  | addSlot a k =>
    show ∃ es, Appended s (addSlot s a k) es ∧ _
    have h1 : ∃ es, Appended s (addAddr s a) es ∧ ∀ e ∈ es, e.plain = true ∧ e.dirtied = none := by
      unfold addAddr
      split
      · exact ⟨[], Appended.refl s, by simp⟩
      · exact ⟨[.alAddr a], ⟨rfl, rfl⟩, by simp [Entry.plain, Entry.dirtied]⟩
    obtain ⟨es1, a1, p1⟩ := h1
    unfold addSlot
    dsimp only
    split
    · exact ⟨es1, a1, p1⟩
    · refine ⟨es1 ++ [.alSlot a k], a1.trans ⟨rfl, rfl⟩, ?_⟩
      intro e he
      rcases List.mem_append.mp he with h | h
      · exact p1 e h
      · simp only [List.mem_singleton] at h; subst h; exact ⟨rfl, rfl⟩

/-! ### the Nibiru-side invariants through any transaction body -/

/-- every address a surviving journal entry dirtied has its object cached -/
def EC (s : S) : Prop := ∀ e ∈ s.journal, ∀ a, e.dirtied = some a → ∃ o, AList.find? s.objs a = some o

/-- undoing the entries appended since `s` leads `Grows`-above `s` -/
def Back (s s' : S) : Prop :=
  ∃ es, s'.journal = s.journal ++ es ∧ (∀ e ∈ es, e.plain = true) ∧ Grows s (revertEntries s' es.reverse)

theorem grows_revertEntries_congr (l : List Entry) (hl : ∀ e ∈ l, e.plain = true) {t t' : S} (h : Grows t t') :
    Grows (revertEntries t l) (revertEntries t' l) := by
  induction l generalizing t t' with
  | nil => exact h
  | cons e r ih =>
    simp only [revertEntries, List.foldl_cons]
    exact ih (fun x hx => hl x (List.mem_cons_of_mem _ hx)) (grows_revertEntry_congr h e (hl e (List.mem_cons_self ..)))

theorem Back.refl (s : S) : Back s s := ⟨[], by simp, by simp, Grows.refl s⟩

theorem Back.trans {s s1 s2 : S} (h1 : Back s s1) (h2 : Back s1 s2) : Back s s2 := by
  obtain ⟨e1, j1, p1, g1⟩ := h1
  obtain ⟨e2, j2, p2, g2⟩ := h2
  refine ⟨e1 ++ e2, by rw [j2, j1, List.append_assoc], ?_, ?_⟩
  · intro e he
    rcases List.mem_append.mp he with h | h
    · exact p1 e h
    · exact p2 e h
  · rw [List.reverse_append, revertEntries_append]
    exact g1.trans (grows_revertEntries_congr e1.reverse (fun e he => p1 e (List.mem_reverse.mp he)) g2)

theorem chk_plain (l : List Entry) (s : S) (h : Chk s l) : ∀ e ∈ l, e.plain = true := by
  induction l generalizing s with
  | nil => intro e he; cases he
  | cons x r ih =>
    intro e he
    rcases List.mem_cons.mp he with h1 | h1
    · subst h1; exact pre_plain s e h.1
    · exact ih _ h.2 e h1

theorem back_of_step {s s' : S} (st : Step s s') : Back s s' := by
  obtain ⟨es, hj, hchk, hg⟩ := st.shape
  exact ⟨es, hj, fun e he => chk_plain _ _ hchk e (List.mem_reverse.mpr he), hg⟩

theorem ec_of_desc {s s' : S} {a : Nat} (d : Desc s s' a) (h : EC s) : EC s' := by
  obtain ⟨es, happ, hes⟩ := d.es
  intro e he b hb
  rw [happ.1] at he
  rcases List.mem_append.mp he with h1 | h1
  · obtain ⟨o, ho⟩ := h e h1 b hb
    by_cases hab : a = b
    · subst hab; exact d.keepsA o ho
    · rw [d.other b hab]; exact ⟨o, ho⟩
  · have hd := (hes e h1).2
    rw [hd] at hb
    injection hb with hb
    subst hb
    rcases d.cachedA with hc | hj
    · exact hc
    · rw [happ.1] at hj
      have : es = [] := by
        have := congrArg List.length hj
        simp at this
        exact this
      rw [this] at h1; cases h1

theorem createAccount_desc (s : S) (a : Nat) :
    (∃ es, Appended s (createAccount s a) es ∧ ∀ e ∈ es, e.plain = true ∧ (e.dirtied = some a ∨ e.dirtied = none)) ∧
    (∃ o, AList.find? (createAccount s a).objs a = some o) ∧
    (∀ b, a ≠ b → AList.find? (createAccount s a).objs b = AList.find? s.objs b) := by
  obtain ⟨j, d⟩ := getObj_dj s a
  unfold createAccount
  rcases hg : getObj s a with ⟨s1, _ | prev⟩
  · have e1 : (getObj s a).1 = s1 := by rw [hg]
    rw [e1] at j d
    dsimp only
    refine ⟨⟨[.createObject a], ?_, ?_⟩, ⟨_, find_setObj_same _ _ _⟩, fun b hab => ?_⟩
    · have h1 : Appended s s1 [] := appended_same j d
      have h2 : Appended s1 (setObj (append s1 (.createObject a)) a {}) [.createObject a] := ⟨rfl, rfl⟩
      simpa using h1.trans h2
    · intro x hx; simp only [List.mem_singleton] at hx; subst hx; exact ⟨rfl, Or.inl rfl⟩
    · rw [find_setObj_other _ _ _ _ hab]
      have := (getObj_other s a b hab).2.2; rw [e1] at this; exact this
  · have e1 : (getObj s a).1 = s1 := by rw [hg]
    rw [e1] at j d
    dsimp only
    refine ⟨⟨[.resetObject a prev], ?_, ?_⟩, ⟨_, find_setObj_same _ _ _⟩, fun b hab => ?_⟩
    · have h1 : Appended s s1 [] := appended_same j d
      have h2 : Appended s1 (setObj (append s1 (.resetObject a prev)) a { balance := prev.balance }) [.resetObject a prev] := ⟨rfl, rfl⟩
      simpa using h1.trans h2
    · intro x hx; simp only [List.mem_singleton] at hx; subst hx; exact ⟨rfl, Or.inr rfl⟩
    · rw [find_setObj_other _ _ _ _ hab]
      have := (getObj_other s a b hab).2.2; rw [e1] at this; exact this

/-- the Nibiru-side bundle -/
structure NInv (s : S) : Prop where
  inv : Inv s
  dj : DJ s
  ec : EC s

theorem ninv_write (s : S) (h : NInv s) (w : WOp) : NInv (applyW s w) := by
  refine ⟨inv_step h.inv (step_applyW s h.inv.1 w), ?_, ?_⟩
  · cases hacct : w.acct with
    | none => obtain ⟨⟨es, happ, _⟩, _⟩ := desc_counter s w hacct; exact happ.dj h.dj
    | some a => obtain ⟨es, happ, _⟩ := (desc_applyW s w a hacct).es; exact happ.dj h.dj
  · cases hacct : w.acct with
    | none =>
      obtain ⟨⟨es, happ, hes⟩, hobjs⟩ := desc_counter s w hacct
      intro e he b hb
      rw [happ.1] at he
      rcases List.mem_append.mp he with h1 | h1
      · rw [hobjs b]; exact h.ec e h1 b hb
      · rw [(hes e h1).2] at hb; cases hb
    | some a => exact ec_of_desc (desc_applyW s w a hacct) h.ec

theorem ninv_create (s : S) (h : NInv s) (a : Nat) : NInv (createAccount s a) := by
  obtain ⟨⟨es, happ, hes⟩, hca, hother⟩ := createAccount_desc s a
  refine ⟨inv_step h.inv (step_createAccount s h.inv.1 a), happ.dj h.dj, ?_⟩
  intro e he b hb
  rw [happ.1] at he
  by_cases hab : a = b
  · subst hab; exact hca
  · rw [hother b hab]
    rcases List.mem_append.mp he with h1 | h1
    · exact h.ec e h1 b hb
    · rcases (hes e h1).2 with hd | hd
      · rw [hd] at hb; injection hb with hb; exact absurd hb hab
      · rw [hd] at hb; cases hb

theorem ninv_read (s : S) (h : NInv s) (r : ROp) : NInv (applyR s r) := by
  have hi := inert_read s r
  have st := step_read s h.inv.1 r
  obtain ⟨_, _, _, hg⟩ := back_of_step st
  refine ⟨inv_step h.inv st, (appended_same hi.journal hi.dirties).dj h.dj, ?_⟩
  intro e he b hb
  rw [hi.journal] at he
  obtain ⟨o, ho⟩ := h.ec e he b hb
  -- reads only add cached objects
  have hgrow : Grows s (applyR s r) := by
    obtain ⟨es, hj, _, hgr⟩ := st.shape
    have : es = [] := by
      rw [hi.journal] at hj
      have := congrArg List.length hj
      simp at this
      exact this
    subst this
    exact hgr
  obtain ⟨o', ho', _⟩ := hgrow.objs b o ho
  exact ⟨o', ho'⟩

theorem ninv_snapshot (s : S) (h : NInv s) : NInv (snapshot s).1 :=
  ⟨inv_step h.inv (step_snapshot s h.inv.1), h.dj, h.ec⟩

/-- after `RevertToSnapshot`: the counts are those of the restored journal, and what the restored journal dirtied is still cached -/
theorem ninv_revert (s s2 : S) (es : List Entry) (hj : s2.journal = s.journal ++ es) (h : NInv s) (h2 : NInv s2)
    (hback : Grows s (revertEntries s2 es.reverse)) (revs : List (Nat × Nat)) :
    NInv { (revertTo s2 s.journal.length) with revisions := revs } := by
  have hdrop : s2.journal.drop s.journal.length = es := by rw [hj]; simp
  have htake : s2.journal.take s.journal.length = s.journal := by rw [hj]; simp
  refine ⟨inv_revert s s2 es hj h2.inv revs, ?_, ?_⟩
  · show CntOK (((s2.journal.drop s.journal.length).reverse).foldl
        (fun d e => match e.dirtied with | some a => unDirty d a | none => d) s2.dirties) (s2.journal.take s.journal.length)
    rw [hdrop, htake]
    have := cntOK_unfold es.reverse s.journal s2.dirties (by rw [List.reverse_reverse, ← hj]; exact h2.dj)
    exact this
  · intro e he b hb
    have he' : e ∈ s2.journal.take s.journal.length := he
    rw [htake] at he'
    obtain ⟨o, ho⟩ := h.ec e he' b hb
    obtain ⟨o', ho', _⟩ := hback.objs b o ho
    show ∃ o, AList.find? (revertEntries s2 (s2.journal.drop s.journal.length).reverse).objs b = some o
    rw [hdrop]
    exact ⟨o', ho'⟩

mutual
theorem runT_tx (b : Tree) (s : S) (h : NInv s) (hrev : RevOK s) :
    ∃ s', runT s b = some s' ∧ NInv s' ∧ Ext2 s s' ∧ Back s s' := by
  have hc : s.cache = none := h.inv.1.1
  cases b with
  | w op => exact ⟨applyW s op, rfl, ninv_write s h op, ext2_write s hc op, back_of_step (step_applyW s h.inv.1 op)⟩
  | r op => exact ⟨applyR s op, rfl, ninv_read s h op, ext2_of_inert (inert_read s op) hc, back_of_step (step_read s h.inv.1 op)⟩
  | create a => exact ⟨createAccount s a, rfl, ninv_create s h a, ext2_create s hc a, back_of_step (step_createAccount s h.inv.1 a)⟩
  | frame ok body =>
    have x0 := ext2_snapshot s hc
    have b0 : Back s (snapshot s).1 := back_of_step (step_snapshot s h.inv.1)
    obtain ⟨s2, hrun, n2, x2, b2⟩ := runTL_tx body (snapshot s).1 (ninv_snapshot s h) (x0.revOK hrev)
    cases ok with
    | true => exact ⟨s2, by simp only [runT, hrun]; rfl, n2, x0.trans x2, b0.trans b2⟩
    | false =>
      obtain ⟨s3, h3, x3, _, _, _⟩ := ext2_revert s s2 hc hrev x2
      have hexp := revertToSnapshot_explicit s s2 hrev x2.revs
      rw [hexp] at h3
      obtain ⟨es, hj, hpl, hg⟩ := b2
      have hj' : s2.journal = s.journal ++ es := hj
      have hg' : Grows s (revertEntries s2 es.reverse) := (grows_of_same (s := s) (t := (snapshot s).1) rfl rfl rfl).trans hg
      have n3 := ninv_revert s s2 es hj' h n2 hg' (s2.revisions.filter (fun r => r.1 < s.nextRev))
      have e3 := Option.some.inj h3
      rw [e3] at n3
      refine ⟨s3, by simp only [runT, hrun, hexp]; exact congrArg some e3, n3, x3, ?_⟩
      -- Back s s3 with an empty suffix: the reverted state is `Grows`-above `s`
      refine ⟨[], ?_, by simp, ?_⟩
      · rw [← e3]
        show s2.journal.take s.journal.length = s.journal ++ []
        rw [hj']; simp
      · rw [← e3]
        have hdrop : s2.journal.drop s.journal.length = es := by rw [hj']; simp
        refine hg'.trans (grows_of_same ?_ ?_ ?_)
        · show (revertEntries s2 (s2.journal.drop s.journal.length).reverse).txStore = _; rw [hdrop]
        · show (revertEntries s2 (s2.journal.drop s.journal.length).reverse).cache = _; rw [hdrop]
        · show (revertEntries s2 (s2.journal.drop s.journal.length).reverse).objs = _; rw [hdrop]
theorem runTL_tx (bs : List Tree) (s : S) (h : NInv s) (hrev : RevOK s) :
    ∃ s', runTL s bs = some s' ∧ NInv s' ∧ Ext2 s s' ∧ Back s s' := by
  cases bs with
  | nil => exact ⟨s, rfl, h, Ext2.refl s h.inv.1.1, Back.refl s⟩
  | cons b t =>
    obtain ⟨s1, hr1, n1, x1, b1⟩ := runT_tx b s h hrev
    obtain ⟨s2, hr2, n2, x2, b2⟩ := runTL_tx t s1 n1 (x1.revOK hrev)
    exact ⟨s2, by simp only [runTL, hr1]; exact hr2, n2, x1.trans x2, b1.trans b2⟩
end

theorem ninv_fresh (st : Store) : NInv { txStore := st } :=
  ⟨inv_fresh st, fun a => by simp [cnt, AList.find?], fun e he => by cases he⟩

/-- **the dirty set at the end of any transaction body** is exactly the set of addresses dirtied by a journal entry that survived
    every revert, and each of them has its state object cached — what `Commit` iterates over -/
theorem C04_dirty_set_after_any_body_partial (st : Store) (body : List Tree) :
    ∃ s', runTL { txStore := st } body = some s' ∧ WF s' ∧
      (∀ a, a ∈ s'.dirties.map (·.1) ↔ ∃ e ∈ s'.journal, e.dirtied = some a) ∧
      (∀ a, a ∈ s'.dirties.map (·.1) → ∃ o, AList.find? s'.objs a = some o) := by
  obtain ⟨s', hr, n, _, _⟩ := runTL_tx body { txStore := st } (ninv_fresh st) (fun r hr => by cases hr)
  refine ⟨s', hr, n.inv.1, dj_mem s' n.dj, fun a ha => ?_⟩
  obtain ⟨e, he, hd⟩ := (dj_mem s' n.dj a).mp ha
  exact n.ec e he a hd

/-! ### the relational invariants: journal entries vs materialised reference accounts, and clean accounts -/

/-- every address a surviving journal entry dirtied is materialised in the reference's transaction state -/
def JG (s : S) (g : GethSpec.G) : Prop :=
  ∀ e ∈ s.journal, ∀ a, e.dirtied = some a → ∃ x, AList.find? g.tx.objs a = some x

/-- an address that no surviving entry dirtied shows exactly what the store holds -/
def Clean (st : Store) (s : S) : Prop :=
  ∀ a, a ∉ s.dirties.map (·.1) → OptEqv st a (objOf s a) (loadObj st a)

theorem gobjs_setObj (g : GethSpec.G) (a b : Nat) (x : GethSpec.Acc) :
    AList.find? (GethSpec.setObj g a x).tx.objs b = if a = b then some x else AList.find? g.tx.objs b := by
  unfold GethSpec.setObj
  by_cases h : a = b
  · subst h; simp [AList.find?_set_self]
  · simp only [h, if_false]; exact AList.find?_set_ne _ _ _ _ h

/-- the reference never un-materialises an account on a plain call, and materialises the account of every write (a self-destruct
    only if the account exists) -/
theorem spec_objs_applyW (g : GethSpec.G) (w : WOp) :
    (∀ b x, AList.find? g.tx.objs b = some x → ∃ x', AList.find? (GethSpec.apply g (toSpec w)).1.tx.objs b = some x') ∧
    (∀ a, w.acct = some a → ((∀ a', w ≠ .suicide a') ∨ GethSpec.obj? g a ≠ none) →
      ∃ x, AList.find? (GethSpec.apply g (toSpec w)).1.tx.objs a = some x) := by
  have keep : ∀ (a : Nat) (y : GethSpec.Acc) b x, AList.find? g.tx.objs b = some x →
      ∃ x', AList.find? (GethSpec.setObj g a y).tx.objs b = some x' := by
    intro a y b x hb
    rw [gobjs_setObj]
    by_cases h : a = b
    · simp [h]
    · simp only [h, if_false]; exact ⟨x, hb⟩
  have mat : ∀ (a : Nat) (y : GethSpec.Acc), ∃ x, AList.find? (GethSpec.setObj g a y).tx.objs a = some x := by
    intro a y; rw [gobjs_setObj]; simp
  cases w with
  | addBalance a d => exact ⟨fun b x hb => keep a _ b x hb, fun a' ha _ => by injection ha with ha; subst ha; exact mat _ _⟩
  | setNonce a n => exact ⟨fun b x hb => keep a _ b x hb, fun a' ha _ => by injection ha with ha; subst ha; exact mat _ _⟩
  | setCode a c => exact ⟨fun b x hb => keep a _ b x hb, fun a' ha _ => by injection ha with ha; subst ha; exact mat _ _⟩
  | setState a k v => exact ⟨fun b x hb => keep a _ b x hb, fun a' ha _ => by injection ha with ha; subst ha; exact mat _ _⟩
  | suicide a =>
    simp only [toSpec, GethSpec.apply]
    cases ho : GethSpec.obj? g a with
    | none =>
      refine ⟨fun b x hb => ⟨x, hb⟩, fun a' ha hcond => ?_⟩
      injection ha with ha; subst ha
      rcases hcond with h | h
      · exact absurd rfl (h a)
      · exact absurd ho h
    | some o => exact ⟨fun b x hb => keep a _ b x hb, fun a' ha _ => by injection ha with ha; subst ha; exact mat _ _⟩
  | addLog => exact ⟨fun b x hb => ⟨x, hb⟩, fun a' ha _ => by cases ha⟩
  | addRefund r => exact ⟨fun b x hb => ⟨x, hb⟩, fun a' ha _ => by cases ha⟩
  | subRefund r =>
    refine ⟨fun b x hb => ?_, fun a' ha _ => by cases ha⟩
    simp only [toSpec, GethSpec.apply]
    split <;> exact ⟨x, hb⟩
  | addAddr a =>
    refine ⟨fun b x hb => ?_, fun a' ha _ => by cases ha⟩
    show ∃ x', AList.find? (GethSpec.apply g (.addAddr a)).1.tx.objs b = some x'
    rw [(gAddAddr_fields g a).2.1]; exact ⟨x, hb⟩
  | addSlot a k =>
    refine ⟨fun b x hb => ?_, fun a' ha _ => by cases ha⟩
    show ∃ x', AList.find? (GethSpec.apply g (.addSlot a k)).1.tx.objs b = some x'
    rw [(gAddSlot_fields g a k).2.1]; exact ⟨x, hb⟩

theorem suicide_absent (s : S) (hc : s.cache = none) (a : Nat) (h : objOf s a = none) : (suicide s a).1.journal = s.journal := by
  obtain ⟨h1, _⟩ := getObj_spec s hc a
  obtain ⟨j, _⟩ := getObj_dj s a
  unfold suicide
  rcases hg : getObj s a with ⟨s1, _ | o⟩
  · rw [hg] at j; exact j
  · rw [hg] at h1; simp only at h1; rw [← h1] at h; cases h

theorem jg_write (s : S) (g : GethSpec.G) (hs : Sim s g) (h : JG s g) (w : WOp) :
    JG (applyW s w) (GethSpec.apply g (toSpec w)).1 := by
  obtain ⟨keep, mat⟩ := spec_objs_applyW g w
  cases hacct : w.acct with
  | none =>
    obtain ⟨⟨es, happ, hes⟩, _⟩ := desc_counter s w hacct
    intro e he b hb
    rw [happ.1] at he
    rcases List.mem_append.mp he with h1 | h1
    · obtain ⟨x, hx⟩ := h e h1 b hb; exact keep b x hx
    · rw [(hes e h1).2] at hb; cases hb
  | some a =>
    obtain ⟨es, happ, hes⟩ := (desc_applyW s w a hacct).es
    intro e he b hb
    rw [happ.1] at he
    rcases List.mem_append.mp he with h1 | h1
    · obtain ⟨x, hx⟩ := h e h1 b hb; exact keep b x hx
    · rw [(hes e h1).2] at hb
      injection hb with hb
      subst hb
      apply mat a hacct
      -- a self-destruct journals something only if the account exists — on both sides, by the simulation
      by_cases hsu : ∃ a', w = .suicide a'
      · obtain ⟨a', hw⟩ := hsu
        subst hw
        have : a' = a := by injection hacct
        subst this
        refine Or.inr (fun hnone => ?_)
        have hr := hs.objs a'
        rw [hnone] at hr
        have hobj : objOf s a' = none := by
          cases ho : objOf s a' with
          | none => rfl
          | some o => rw [ho] at hr; exact False.elim hr
        have hj := suicide_absent s hs.cache a' hobj
        have hj' : (applyW s (.suicide a')).journal = s.journal := hj
        rw [happ.1] at hj'
        have : es = [] := by
          have := congrArg List.length hj'
          simp at this
          exact this
        rw [this] at h1; cases h1
      · exact Or.inl (fun a' hw => hsu ⟨a', hw⟩)

theorem objOf_of_find (s s' : S) (b : Nat) (h1 : AList.find? s'.objs b = AList.find? s.objs b) (h2 : s'.txStore = s.txStore) :
    objOf s' b = objOf s b := by unfold objOf; rw [h1, h2]

theorem clean_write (st : Store) (s : S) (hst : s.txStore = st) (hn : NInv s) (hn' : NInv (applyW s w)) (h : Clean st s) :
    Clean st (applyW s w) := by
  have hstore : (applyW s w).txStore = s.txStore :=
    (applyW_other s w ((w.acct.getD 0) + 1) (by cases h : w.acct <;> simp)).2.1
  have hc : s.cache = none := hn.inv.1.1
  intro b hb
  cases hacct : w.acct with
  | none =>
    obtain ⟨⟨es, happ, hes⟩, hobjs⟩ := desc_counter s w hacct
    have hb0 : b ∉ s.dirties.map (·.1) := by
      intro hin
      obtain ⟨e, he, hd⟩ := (dj_mem s hn.dj b).mp hin
      exact hb ((dj_mem _ hn'.dj b).mpr ⟨e, by rw [happ.1]; exact List.mem_append_left _ he, hd⟩)
    rw [objOf_of_find s (applyW s w) b (hobjs b) hstore]
    exact h b hb0
  | some a =>
    have d := desc_applyW s w a hacct
    obtain ⟨es, happ, hes⟩ := d.es
    have hb0 : b ∉ s.dirties.map (·.1) := by
      intro hin
      obtain ⟨e, he, hd⟩ := (dj_mem s hn.dj b).mp hin
      exact hb ((dj_mem _ hn'.dj b).mpr ⟨e, by rw [happ.1]; exact List.mem_append_left _ he, hd⟩)
    by_cases hab : a = b
    · subst hab
      -- nothing that dirties `a` was appended, so nothing was appended at all, and the call changed no observable
      have hnil : es = [] := by
        cases es with
        | nil => rfl
        | cons e r =>
          exfalso
          apply hb
          exact (dj_mem _ hn'.dj a).mpr ⟨e, by rw [happ.1]; simp, (hes e (List.mem_cons_self ..)).2⟩
      obtain ⟨es', hj', _, hobs⟩ := undoW_obs s hc w
      have : es' = [] := by
        rw [happ.1, hnil] at hj'
        have := congrArg List.length hj'
        simp at this
        exact this
      rw [this] at hobs
      have ho : Obs (applyW s w) s := hobs
      have e1 := ho.objs a
      rw [hstore, hst] at e1
      exact e1.trans (h a hb0)
    · rw [objOf_of_find s (applyW s w) b (d.other b hab) hstore]
      exact h b hb0

theorem jg_create (s : S) (g : GethSpec.G) (h : JG s g) (a : Nat) :
    JG (createAccount s a) (GethSpec.apply g (.createAccount a)).1 := by
  obtain ⟨⟨es, happ, hes⟩, _, _⟩ := createAccount_desc s a
  intro e he b hb
  show ∃ x, AList.find? (GethSpec.setObj g a _).tx.objs b = some x
  rw [gobjs_setObj]
  by_cases hab : a = b
  · simp [hab]
  · simp only [hab, if_false]
    rw [happ.1] at he
    rcases List.mem_append.mp he with h1 | h1
    · exact h e h1 b hb
    · rcases (hes e h1).2 with hd | hd
      · rw [hd] at hb; injection hb with hb; exact absurd hb hab
      · rw [hd] at hb; cases hb

/-- where `evm.create` may call `CreateAccount`: the persisted account (if any) has no nonce, no code and no storage -/
def CreateOK (st : Store) (a : Nat) : Prop :=
  (∀ k, st.slot a k = 0) ∧ ∀ x, st.acct a = some x → x.nonce = 0 ∧ x.codeHash = 0

theorem clean_create (st : Store) (s : S) (hst : s.txStore = st) (hn : NInv s) (hn' : NInv (createAccount s a)) (h : Clean st s)
    (hok : CreateOK st a) : Clean st (createAccount s a) := by
  have hc : s.cache = none := hn.inv.1.1
  obtain ⟨⟨es, happ, hes⟩, _, hother⟩ := createAccount_desc s a
  obtain ⟨fst, _, _, _⟩ := createAccount_frame s a
  intro b hb
  have hb0 : b ∉ s.dirties.map (·.1) := by
    intro hin
    obtain ⟨e, he, hd⟩ := (dj_mem s hn.dj b).mp hin
    exact hb ((dj_mem _ hn'.dj b).mpr ⟨e, by rw [happ.1]; exact List.mem_append_left _ he, hd⟩)
  by_cases hab : a = b
  · subst hab
    have hclean := h a hb0
    obtain ⟨h1, _⟩ := getObj_spec s hc a
    obtain ⟨j, _⟩ := getObj_dj s a
    -- which branch `createAccount` took
    cases hobj : objOf s a with
    | none =>
      -- over nothing: a `createObjectChange` dirties `a`
      exfalso
      apply hb
      have hjr : (createAccount s a).journal = s.journal ++ [.createObject a] := by
        unfold createAccount
        rcases hg : getObj s a with ⟨s1, _ | prev⟩
        · rw [hg] at j; dsimp only; show s1.journal ++ [Entry.createObject a] = _; rw [j]
        · rw [hg] at h1; simp only at h1; rw [← h1] at hobj; cases hobj
      exact (dj_mem _ hn'.dj a).mpr ⟨.createObject a, by rw [hjr]; simp, rfl⟩
    | some prev =>
      rw [hobj] at hclean
      have hnew : objOf (createAccount s a) a = some { balance := prev.balance } := by
        unfold createAccount
        rcases hg : getObj s a with ⟨s1, _ | p⟩
        · rw [hg] at h1; simp only at h1; rw [← h1] at hobj; cases hobj
        · rw [hg] at h1; simp only at h1; rw [← h1] at hobj; injection hobj with hobj; subst hobj
          dsimp only
          rw [objOf_setObj]; simp
      rw [hnew]
      cases hl : loadObj st a with
      | none => rw [hl] at hclean; exact False.elim hclean
      | some L =>
        rw [hl] at hclean
        unfold loadObj at hl
        cases hy : st.acct a with
        | none => rw [hy] at hl; cases hl
        | some y =>
          rw [hy] at hl
          simp only [Option.map] at hl
          injection hl with hl
          obtain ⟨hn0, hc0⟩ := hok.2 y hy
          subst hl
          exact ⟨hclean.1, hn0.symm, hc0.symm, rfl, fun _ => rfl, fun _ => rfl⟩
  · rw [objOf_of_find s (createAccount s a) b (hother b hab) fst, ]
    exact h b hb0

/-- after a reverted frame: the dirty set and every observable are those of the state at the snapshot -/
theorem clean_of_obs (st : Store) (s s3 : S) (hst : s.txStore = st) (hn : NInv s) (hn3 : NInv s3) (hj : s3.journal = s.journal)
    (hobs : Obs s3 s) (h : Clean st s) : Clean st s3 := by
  intro b hb
  have hb0 : b ∉ s.dirties.map (·.1) := by
    intro hin
    obtain ⟨e, he, hd⟩ := (dj_mem s hn.dj b).mp hin
    exact hb ((dj_mem _ hn3.dj b).mpr ⟨e, by rw [hj]; exact he, hd⟩)
  have e1 := hobs.objs b
  have hst3 : s3.txStore = st := by rw [← hst]; exact hobs.core.store.symm
  rw [hst3] at e1
  exact e1.trans (h b hb0)

mutual
def Tree.OK2 (st : Store) : Tree → Prop
  | .w _ => True
  | .r _ => True
  | .create a => CreateOK st a
  | .frame _ body => Tree.OKL2 st body
def Tree.OKL2 (st : Store) : List Tree → Prop
  | [] => True
  | b :: t => Tree.OK2 st b ∧ Tree.OKL2 st t
end

mutual
theorem ok_of_ok2 (st : Store) (b : Tree) (h : Tree.OK2 st b) : Tree.OK st b := by
  cases b with
  | w op => exact True.intro
  | r op => exact True.intro
  | create a => exact h.1
  | frame ok body => simp only [Tree.OK2] at h; simp only [Tree.OK]; exact okl_of_okl2 st body h
theorem okl_of_okl2 (st : Store) (bs : List Tree) (h : Tree.OKL2 st bs) : Tree.OKL st bs := by
  cases bs with
  | nil => exact True.intro
  | cons b t => simp only [Tree.OKL2] at h; simp only [Tree.OKL]; exact ⟨ok_of_ok2 st b h.1, okl_of_okl2 st t h.2⟩
end

/-- everything the last step needs, about a pair of states -/
structure Full (st : Store) (s : S) (g : GethSpec.G) : Prop where
  sim : Sim s g
  ninv : NInv s
  jg : JG s g
  clean : Clean st s
  store : s.txStore = st
  rev : RevOK s
  ids : GethSpec.IdsBelow g

mutual
theorem runT_full (st : Store) (b : Tree) (s : S) (g : GethSpec.G) (h : Full st s g) (hok : Tree.OK2 st b) :
    ∃ s', runT s b = some s' ∧ Full st s' (runGT g b) ∧ Ext2 s s' ∧ ExtG g (runGT g b) := by
  have hok1 : Tree.OK s.txStore b := by rw [h.store]; exact ok_of_ok2 st b hok
  -- the simulation, the Nibiru-side bundle and the bookkeeping come from the earlier inductions on the same tree
  obtain ⟨sa, hra, hsim, xa, ya⟩ := runT_sim b s g h.sim h.rev h.ids hok1
  obtain ⟨sb, hrb, hnb, _, _⟩ := runT_tx b s h.ninv h.rev
  have hsame : sb = sa := by rw [hra] at hrb; exact (Option.some.inj hrb).symm
  subst hsame
  have hstore : sb.txStore = st := xa.store.trans h.store
  have hrev' := xa.revOK h.rev
  have hids' := ya.idsBelow h.ids
  refine ⟨sb, hra, ?_, xa, ya⟩
  cases b with
  | w op =>
    have e : sb = applyW s op := (Option.some.inj hra).symm
    subst e
    exact ⟨hsim, hnb, by simp only [runGT]; exact jg_write s g h.sim h.jg op,
      clean_write st s h.store h.ninv hnb h.clean, hstore, hrev', hids'⟩
  | r op =>
    have e : sb = applyR s op := (Option.some.inj hra).symm
    subst e
    have hi := inert_read s op
    refine ⟨hsim, hnb, ?_, ?_, hstore, hrev', hids'⟩
    · simp only [runGT]
      intro e he a hd
      rw [hi.journal] at he
      exact h.jg e he a hd
    · intro b hb
      rw [hi.dirties] at hb
      have e1 := (hi.obs h.sim.cache).objs b
      rw [hstore] at e1
      exact e1.trans (h.clean b hb)
  | create a =>
    have e : sb = createAccount s a := (Option.some.inj hra).symm
    subst e
    exact ⟨hsim, hnb, by simp only [runGT]; exact jg_create s g h.jg a,
      clean_create st s h.store h.ninv hnb h.clean hok, hstore, hrev', hids'⟩
  | frame ok body =>
    simp only [Tree.OK2] at hok
    have hc : s.cache = none := h.sim.cache
    have hs1 : Sim (snapshot s).1 (GethSpec.apply g .snapshot).1 :=
      sim_congr_ref (snapshot s).1 g _ rfl rfl
        ⟨h.sim.cache, h.sim.storeOK, fun a => Rel_congr s (snapshot s).1 g g rfl rfl a _ _ (h.sim.objs a), h.sim.refund,
          h.sim.logs, h.sim.alA, h.sim.alS⟩
    have x0 := ext2_snapshot s hc
    have y0 := extG_snapshot g
    have f0 : Full st (snapshot s).1 (GethSpec.apply g .snapshot).1 :=
      ⟨hs1, ninv_snapshot s h.ninv, h.jg, h.clean, h.store, x0.revOK h.rev, y0.idsBelow h.ids⟩
    obtain ⟨s2, hrun, f2, x2, y2⟩ := runTL_full st body (snapshot s).1 (GethSpec.apply g .snapshot).1 f0 hok
    cases ok with
    | true =>
      have e : sb = s2 := by
        have : runT s (.frame true body) = some s2 := by simp only [runT, hrun]; rfl
        rw [hra] at this; exact Option.some.inj this
      subst e
      exact ⟨hsim, hnb, by simp only [runGT, if_true]; exact f2.jg, f2.clean, hstore, hrev', hids'⟩
    | false =>
      obtain ⟨s3, h3, x3, e3, hj3, _⟩ := ext2_revert s s2 hc h.rev x2
      obtain ⟨t1, _, _, _⟩ := extG_revert g _ h.ids y2
      have e : sb = s3 := by
        have : runT s (.frame false body) = some s3 := by simp only [runT, hrun]; exact h3
        rw [hra] at this; exact Option.some.inj this
      subst e
      refine ⟨hsim, hnb, ?_, clean_of_obs st s sb h.store h.ninv hnb hj3 e3 h.clean, hstore, hrev', hids'⟩
      simp only [runGT, Bool.false_eq_true, if_false]
      intro e he a hd
      rw [hj3] at he
      rw [t1]
      exact h.jg e he a hd
theorem runTL_full (st : Store) (bs : List Tree) (s : S) (g : GethSpec.G) (h : Full st s g) (hok : Tree.OKL2 st bs) :
    ∃ s', runTL s bs = some s' ∧ Full st s' (runGTL g bs) ∧ Ext2 s s' ∧ ExtG g (runGTL g bs) := by
  cases bs with
  | nil => exact ⟨s, rfl, h, Ext2.refl s h.sim.cache, ExtG.refl g⟩
  | cons b t =>
    simp only [Tree.OKL2] at hok
    obtain ⟨s1, hr1, f1, x1, y1⟩ := runT_full st b s g h hok.1
    obtain ⟨s2, hr2, f2, x2, y2⟩ := runTL_full st t s1 (runGT g b) f1 hok.2
    exact ⟨s2, by simp only [runTL, hr1]; exact hr2, by simp only [runGTL]; exact f2, x1.trans x2, by simp only [runGTL]; exact y1.trans y2⟩
end

/-! ### the last step: what the two write-backs persist -/

/-- how a persisted Nibiru account and a persisted reference account correspond; go-ethereum deletes an account that ends a
    transaction empty, Nibiru persists it as an empty record — the two are identified -/
def AcctRel (E : Prop) : Option StoreAcc → Option (Nat × Nat × Int) → Prop
  -- Nibiru's bank holds whole unibi: it persists the wei balance divided by 10^12, truncated
  | some x, some y => y.1 = x.nonce ∧ y.2.1 = x.codeHash ∧ x.balance = Int.tdiv y.2.2 weiPerUnibi
  | none, none => True
  | some x, none => x.nonce = 0 ∧ x.codeHash = 0 ∧ x.balance = 0 ∧ E    -- `E`: why the reference has no account here
  | none, some _ => False

/-- the reference deleted the account at `a` because it ended the transaction empty (EIP-161) -/
def EndedEmpty (g : GethSpec.G) (a : Nat) : Prop :=
  ∃ x, AList.find? g.tx.objs a = some x ∧ x.suicided = false ∧ x.nonce = 0 ∧ x.balance = 0 ∧ x.code = 0

theorem view_parts {a : Nat} {B : GethSpec.Base} {p : Option (Nat × Nat × Int)} {f : Nat → Nat}
    (h : GethSpec.view a B = (p, f)) : AList.find? B.accts a = p ∧ ∀ k, B.slot a k = f k :=
  ⟨congrArg Prod.fst h, fun k => congrFun (congrArg Prod.snd h) k⟩

theorem commit_suicided_absent (s : S) (hc : s.cache = none) (a : Nat) (o : Obj) (ho : AList.find? s.objs a = some o)
    (hd : a ∈ s.dirties.map (·.1)) (hs : o.suicided = true) (hab : s.txStore.acct a = none) (k : Nat) :
    (commit s).txStore.slot a k = s.txStore.slot a k := by
  rw [(commit_suicided s hc a o ho hd hs).2 k, deleteAcct_absent _ a hab]

/-- agreement of the two persisted account records (Nibiru's bank holds whole unibi: the wei balance divided by 10^12, truncated) -/
def AcctRelK : Option StoreAcc → Option (Nat × Nat × Int) → Prop
  | some x, some y => y.1 = x.nonce ∧ y.2.1 = x.codeHash ∧ x.balance = Int.tdiv y.2.2 weiPerUnibi
  | none, none => True
  | _, _ => False

/-- one transaction, through both write-backs, the reference's with the EIP-161 deletion switched off; the reference's persisted
    base is still the initial one when its write-back starts -/
theorem tx_commit_matches_keep (st : Store) (b : GethSpec.Base)
    (hok : ∀ a, st.acct a = none → ∀ k, st.slot a k = 0)
    (hacc : ∀ a, AList.find? b.accts a = (st.acct a).map (fun x => (x.nonce, x.codeHash, x.balance * weiPerUnibi)))
    (hslot : ∀ a k, b.slot a k = st.slot a k) (body : List Tree) (hbody : Tree.OKL2 st body) :
    ∃ s', runTL { txStore := st } body = some s' ∧ (runGTL { base := b } body).base = b ∧
       ∀ a, AcctRelK ((commit s').txStore.acct a)
              (AList.find? (GethSpec.commitKeep (runGTL { base := b } body)).base.accts a) ∧
            ∀ k, (commit s').txStore.slot a k = (GethSpec.commitKeep (runGTL { base := b } body)).base.slot a k := by
  have f0 : Full st { txStore := st } { base := b } := by
    refine ⟨sim_init st b hok hacc hslot, ninv_fresh st, fun e he => (by cases he), fun a _ => ?_, rfl, fun r hr => (by cases hr),
      fun r hr => (by cases hr)⟩
    have : objOf ({ txStore := st } : S) a = loadObj st a := rfl
    rw [this]; exact OptEqv.refl _ _ _
  obtain ⟨s', hrun, f, _, yg⟩ := runTL_full st body { txStore := st } { base := b } f0 hbody
  have hbase : (runGTL { base := b } body).base = b := yg.base
  refine ⟨s', hrun, hbase, fun a => ?_⟩
  have hwf : WF s' := f.ninv.inv.1
  have hc : s'.cache = none := hwf.1
  have hw0 : weiPerUnibi ≠ 0 := by unfold weiPerUnibi; decide
  have hrel := f.sim.objs a
  by_cases hD : a ∈ s'.dirties.map (·.1)
  · -- written back by Nibiru: the address is cached, and materialised in the reference
    obtain ⟨e, he, hde⟩ := (dj_mem s' f.ninv.dj a).mp hD
    obtain ⟨o, ho⟩ := f.ninv.ec e he a hde
    obtain ⟨x, hx⟩ := f.jg e he a hde
    have hobj : objOf s' a = some o := by unfold objOf; rw [ho]
    have hgobj : GethSpec.obj? (runGTL { base := b } body) a = some x := by unfold GethSpec.obj?; rw [hx]
    rw [hobj, hgobj] at hrel
    obtain ⟨r1, r2, r3, r4, r5, _⟩ := hrel
    obtain ⟨ga, gs⟩ := view_parts (GethSpec.commitKeep_at _ a x hx)
    rw [ga, ← r4]
    simp only [gs, ← r4]
    cases hsu : o.suicided with
    | true =>
      obtain ⟨p1, p2⟩ := commit_suicided s' hc a o ho hD hsu
      rw [p1]
      refine ⟨True.intro, fun k => ?_⟩
      rw [p2 k, f.store]
      exact slot_deleteAcct_of_ok st a (hok a) k
    | false =>
      obtain ⟨p1, p2⟩ := commit_persists_view s' hwf a o ho hD hsu
      rw [p1]
      exact ⟨⟨r2.symm, r3.symm, by rw [r1]⟩, fun k => (p2 k).trans (r5 k)⟩
  · -- left alone by Nibiru
    obtain ⟨p1, p2⟩ := commit_frame s' hc a hD
    rw [f.store] at p1 p2
    rw [p1]
    simp only [p2]
    cases hx : AList.find? (runGTL { base := b } body).tx.objs a with
    | none =>
      obtain ⟨ga, gs⟩ := view_parts (GethSpec.commitKeep_untouched _ a hx)
      rw [ga, hbase, hacc a]
      refine ⟨?_, fun k => by rw [gs k, hbase, hslot]⟩
      cases st.acct a with
      | none => exact True.intro
      | some y => exact ⟨rfl, rfl, (Int.mul_tdiv_cancel _ hw0).symm⟩
    | some x =>
      -- materialised in the reference but not dirtied: the account is the persisted one
      have hgobj : GethSpec.obj? (runGTL { base := b } body) a = some x := by unfold GethSpec.obj?; rw [hx]
      rw [hgobj] at hrel
      have hcl := f.clean a hD
      cases hobj : objOf s' a with
      | none => rw [hobj] at hrel; exact False.elim hrel
      | some o =>
        rw [hobj] at hrel hcl
        obtain ⟨r1, r2, r3, r4, r5, _⟩ := hrel
        unfold loadObj at hcl
        cases hy : st.acct a with
        | none => rw [hy] at hcl; exact False.elim hcl
        | some y =>
          rw [hy] at hcl
          obtain ⟨q1, q2, q3, q4, _, q6⟩ := hcl
          obtain ⟨ga, gs⟩ := view_parts (GethSpec.commitKeep_at _ a x hx)
          rw [ga, ← r4, q4]
          simp only [gs, ← r4, q4]
          refine ⟨⟨by rw [← r2, q2], by rw [← r3, q3], ?_⟩, fun k => ?_⟩
          · show y.balance = Int.tdiv x.balance weiPerUnibi
            rw [← r1, q1]; exact (Int.mul_tdiv_cancel _ hw0).symm
          · rw [← r5 k, objState_eq, f.store]
            exact (q6 k).symm

/-- **C03 (partial) — one transaction against go-ethereum with the EIP-161 deletion switched off.** Over the same persisted data,
    for ANY transaction body (any tree of writes, `CreateAccount` calls where `evm.create` may make them, and call frames nested to
    any depth, returning or failing, on any accounts): Nibiru's journaled StateDB runs it to the end, and after `Commit` EVERY
    address holds an account on both sides or on neither, with the same nonce and code hash, Nibiru's balance being the
    reference's wei balance in whole unibi, and every slot holds the same value — with no side condition on the final state at all. -/
theorem C03_transaction_commit_matches_keep_reference_partial (st : Store) (b : GethSpec.Base)
    (hok : ∀ a, st.acct a = none → ∀ k, st.slot a k = 0)
    (hacc : ∀ a, AList.find? b.accts a = (st.acct a).map (fun x => (x.nonce, x.codeHash, x.balance * weiPerUnibi)))
    (hslot : ∀ a k, b.slot a k = st.slot a k) (body : List Tree) (hbody : Tree.OKL2 st body) :
    ∃ s', runTL { txStore := st } body = some s' ∧
       ∀ a, AcctRelK ((commit s').txStore.acct a)
              (AList.find? (GethSpec.commitKeep (runGTL { base := b } body)).base.accts a) ∧
            ∀ k, (commit s').txStore.slot a k = (GethSpec.commitKeep (runGTL { base := b } body)).base.slot a k := by
  obtain ⟨s', hrun, _, h⟩ := tx_commit_matches_keep st b hok hacc hslot body hbody
  exact ⟨s', hrun, h⟩

theorem AcctRel.of_keep {E : Prop} : ∀ {x : Option StoreAcc} {y : Option (Nat × Nat × Int)}, AcctRelK x y → AcctRel E x y
  | none, none, h => h
  | none, some _, h => h
  | some _, none, h => h.elim
  | some _, some _, h => h

/-- **C03 (partial) — a whole transaction without precompile calls, through the write-back.** Over the same persisted data, for ANY
    transaction body (any tree of writes, `CreateAccount` calls where `evm.create` may make them, and call frames nested to any
    depth, returning or failing, on any accounts): Nibiru's journaled StateDB runs it to the end, and after `Commit` the store holds,
    at EVERY address, what go-ethereum's own end-of-transaction write-back leaves in its state — the same nonce, code hash and
    balance (an account go-ethereum deletes because it ended empty is an empty record in Nibiru) and the same value in every
    storage slot; the balance Nibiru persists is go-ethereum's wei balance in whole unibi (divided by 10^12, truncated: Nibiru's bank
    stores unibi).  One side condition, about the final state and guaranteed by the interpreter: an account that ends the
    transaction empty without having self-destructed has no storage (only contract code writes storage).
    A corollary of the theorem above: the two modes of the reference differ only at an address that `EndedEmpty`. -/
theorem C03_transaction_commit_matches_reference_partial (st : Store) (b : GethSpec.Base)
    (hok : ∀ a, st.acct a = none → ∀ k, st.slot a k = 0)
    (hacc : ∀ a, AList.find? b.accts a = (st.acct a).map (fun x => (x.nonce, x.codeHash, x.balance * weiPerUnibi)))
    (hslot : ∀ a k, b.slot a k = st.slot a k) (body : List Tree) (hbody : Tree.OKL2 st body) :
    ∃ s', runTL { txStore := st } body = some s' ∧
      ((∀ a x, AList.find? (runGTL { base := b } body).tx.objs a = some x → x.suicided = false →
          x.nonce = 0 → x.balance = 0 → x.code = 0 →
          ∀ k, GethSpec.stateOf (runGTL { base := b } body) a x k = 0 ∧ b.slot a k = 0) →
       ∀ a, AcctRel (EndedEmpty (runGTL { base := b } body) a) ((commit s').txStore.acct a)
              (AList.find? (GethSpec.commit (runGTL { base := b } body)).base.accts a) ∧
            ∀ k, (commit s').txStore.slot a k = (GethSpec.commit (runGTL { base := b } body)).base.slot a k) := by
  obtain ⟨s', hrun, hb0, hk⟩ := tx_commit_matches_keep st b hok hacc hslot body hbody
  refine ⟨s', hrun, fun hempty a => ?_⟩
  obtain ⟨ka, ks⟩ := hk a
  by_cases hE : EndedEmpty (runGTL { base := b } body) a
  · -- here the reference holds an empty account in one mode and none in the other; all slots are 0 by the side condition
    obtain ⟨x, hx, hs, hn, hb, hc⟩ := id hE
    obtain ⟨ga, gs⟩ := view_parts (GethSpec.commit_at _ a x hx)
    obtain ⟨ga', gs'⟩ := view_parts (GethSpec.commitKeep_at _ a x hx)
    have hd : GethSpec.dead x = true := by unfold GethSpec.dead; simp [hn, hb, hc]
    rw [ga', hs, hn, hb, hc] at ka
    rw [ga, hd]
    cases hy : (commit s').txStore.acct a with
    | none => rw [hy] at ka; exact False.elim ka
    | some y =>
      rw [hy] at ka
      refine ⟨⟨ka.1.symm, ka.2.1.symm, ka.2.2.trans (Int.zero_tdiv _), hE⟩, fun k => ?_⟩
      rw [ks k, gs' k, gs k, hs, hd, (hempty a x hx hs hn hb hc k).1]
      simp only [Bool.false_eq_true, if_false, if_true, Bool.false_or]
      split
      · rfl
      · rw [hb0]; exact (hempty a x hx hs hn hb hc k).2.symm
  · obtain ⟨ga, gs⟩ := view_parts
      (GethSpec.commit_eq_commitKeep_at (runGTL { base := b } body) a fun o ho hs he => hE ⟨o, ho, hs, he.1, he.2.1, he.2.2⟩)
    rw [ga]
    refine ⟨?_, fun k => (ks k).trans (gs k).symm⟩
    exact AcctRel.of_keep ka

/-! ### non-vacuity: a concrete transaction over a store with one contract -/

/-- value arrives at the contract, a slot is rewritten; a frame that funds a new account, creates another and rewrites the slot fails;
    a frame that bumps the nonce returns although a nested frame that self-destructs the contract fails; a fresh account is funded;
    reads (account, GetState, GetCommittedState) in between -/
def demoTx : List Tree :=
  [ .r (.acc 1), .w (.addBalance 1 3000000000000), .r (.state 1 0), .w (.setState 1 0 5),
    .frame false [ .r (.acc 2), .w (.addBalance 2 7000000000000), .create 3, .w (.setNonce 3 1), .r (.committed 1 0),
                   .w (.setState 1 0 9) ],
    .frame true [ .w (.setNonce 1 2), .frame false [ .w (.suicide 1), .r (.acc 1) ] ],
    .w (.addBalance 4 2000000000000), .r (.state 4 7) ]

def demoFinal : S := (runTL { txStore := demoStore } demoTx).getD {}

theorem demoStore_ok : ∀ a, demoStore.acct a = none → ∀ k, demoStore.slot a k = 0 := by
  intro a ha k
  by_cases h1 : a = 1
  · subst h1; simp [demoStore, Store.acct, AList.find?] at ha
  · have : ((1, 0) : Nat × Nat) ≠ (a, k) := fun e => h1 (congrArg Prod.fst e).symm
    simp [demoStore, Store.slot, AList.find?, this]

theorem demo_acc : ∀ a, AList.find? demoBase.accts a =
    (demoStore.acct a).map (fun x => (x.nonce, x.codeHash, x.balance * weiPerUnibi)) := by
  intro a
  by_cases h1 : a = 1
  · subst h1; simp [demoStore, demoBase, Store.acct, AList.find?, weiPerUnibi]
  · have : (1 : Nat) ≠ a := fun e => h1 e.symm
    simp [demoStore, demoBase, Store.acct, AList.find?, this]

theorem demoTx_ok : Tree.OKL2 demoStore demoTx := by
  simp only [demoTx, Tree.OKL2, Tree.OK2, and_true, true_and]
  refine ⟨fun k => ?_, fun x hx => ?_⟩
  · have : ((1, 0) : Nat × Nat) ≠ (3, k) := fun e => by cases e
    simp [demoStore, Store.slot, AList.find?, this]
  · simp [demoStore, Store.acct, AList.find?] at hx

/-- the two side conditions on the reference's final state quantify over all addresses; over a concrete run they are checked on
    the finitely many materialised accounts, by evaluation -/
theorem noEmpty_of_objs (g : GethSpec.G)
    (h : ∀ p ∈ g.tx.objs, ¬ (p.2.suicided = false ∧ p.2.nonce = 0 ∧ p.2.balance = 0 ∧ p.2.code = 0)) (a : Nat) : ¬ EndedEmpty g a :=
  fun ⟨x, hx, e⟩ => h (a, x) (mem_of_find hx) e

theorem whole_of_accts (l : List (Nat × (Nat × Nat × Int))) (h : ∀ p ∈ l, p.2.2.2 % weiPerUnibi = 0) (a : Nat) (y : Nat × Nat × Int)
    (hy : AList.find? l a = some y) : ∃ u : Int, y.2.2 = u * weiPerUnibi := by
  obtain ⟨u, hu⟩ := Int.dvd_of_emod_eq_zero (h (a, y) (mem_of_find hy))
  exact ⟨u, hu.trans (Int.mul_comm _ _)⟩

theorem demo_noEmpty : ∀ a, ¬ EndedEmpty (runGTL { base := demoBase } demoTx) a := noEmpty_of_objs _ (by decide)

/-- the side conditions of the theorem hold for `demoTx`, so its conclusion does: after `Commit` every address holds what the
    reference's write-back holds (account 1: nonce 2, code 7, 8 unibi, slot 0 = 5; account 4: 2 unibi; accounts 2 and 3: nothing) -/
example : ∀ a, AcctRel (EndedEmpty (runGTL { base := demoBase } demoTx) a) ((commit demoFinal).txStore.acct a)
      (AList.find? (GethSpec.commit (runGTL { base := demoBase } demoTx)).base.accts a) ∧
    ∀ k, (commit demoFinal).txStore.slot a k = (GethSpec.commit (runGTL { base := demoBase } demoTx)).base.slot a k := by
  obtain ⟨s', hr, h⟩ := C03_transaction_commit_matches_reference_partial demoStore demoBase demoStore_ok demo_acc (fun _ _ => rfl)
    demoTx demoTx_ok
  have e : s' = demoFinal := by unfold demoFinal; rw [hr]; rfl
  subst e
  exact h fun a x hx hs hn hb hc => absurd ⟨x, hx, hs, hn, hb, hc⟩ (demo_noEmpty a)

/-! ### sequences of transactions -/

/-- an account that is absent after `Commit` has no storage left -/
theorem commit_absent_no_slots (st : Store) (hok : ∀ a, st.acct a = none → ∀ k, st.slot a k = 0) (body : List Tree) :
    ∃ s', runTL { txStore := st } body = some s' ∧
      ∀ a, (commit s').txStore.acct a = none → ∀ k, (commit s').txStore.slot a k = 0 := by
  obtain ⟨s', hr, n, x, _⟩ := runTL_tx body { txStore := st } (ninv_fresh st) (fun r hr => by cases hr)
  refine ⟨s', hr, fun a hnone k => ?_⟩
  have hwf : WF s' := n.inv.1
  have hst : s'.txStore = st := x.store
  by_cases hD : a ∈ s'.dirties.map (·.1)
  · obtain ⟨e, he, hde⟩ := (dj_mem s' n.dj a).mp hD
    obtain ⟨o, ho⟩ := n.ec e he a hde
    cases hsu : o.suicided with
    | true =>
      rw [(commit_suicided s' hwf.1 a o ho hD hsu).2 k, hst]
      exact slot_deleteAcct_of_ok st a (hok a) k
    | false =>
      rw [(commit_persists_view s' hwf a o ho hD hsu).1] at hnone; cases hnone
  · obtain ⟨p1, p2⟩ := commit_frame s' hwf.1 a hD
    rw [hst] at p1 p2
    rw [p2 k]
    exact hok a (by rw [← p1]; exact hnone) k

/-- the persisted states agree exactly: what `sim_init` asks for at the start of a transaction -/
structure StoreEq (st : Store) (b : GethSpec.Base) : Prop where
  ok : ∀ a, st.acct a = none → ∀ k, st.slot a k = 0
  acc : ∀ a, AList.find? b.accts a = (st.acct a).map (fun x => (x.nonce, x.codeHash, x.balance * weiPerUnibi))
  slot : ∀ a k, b.slot a k = st.slot a k

/-- what one transaction leaves in Nibiru's store / in the reference's base -/
def persistN (st : Store) (body : List Tree) : Store := (commit ((runTL { txStore := st } body).getD {})).txStore
def persistG (b : GethSpec.Base) (body : List Tree) : GethSpec.Base := (GethSpec.commit (runGTL { base := b } body)).base

/-- the step of a history: from equal persisted states, a transaction leaves Nibiru's store equal to any base `B` that holds, at
    every address, what the reference's write-back without the EIP-161 deletion leaves — provided the balances in `B` are whole
    unibi (otherwise Nibiru's bank, which truncates, starts the next transaction with less) -/
theorem storeEq_of_agree (st : Store) (b : GethSpec.Base) (h : StoreEq st b) (body : List Tree) (hcreate : Tree.OKL2 st body)
    (B : GethSpec.Base) (hB : ∀ a, GethSpec.view a B = GethSpec.view a (GethSpec.commitKeep (runGTL { base := b } body)).base)
    (hwhole : ∀ a y, AList.find? B.accts a = some y → ∃ u : Int, y.2.2 = u * weiPerUnibi) : StoreEq (persistN st body) B := by
  obtain ⟨s', hrun, hk⟩ := C03_transaction_commit_matches_keep_reference_partial st b h.ok h.acc h.slot body hcreate
  obtain ⟨s'', hrun', habs⟩ := commit_absent_no_slots st h.ok body
  have e : s'' = s' := by rw [hrun] at hrun'; exact (Option.some.inj hrun').symm
  subst e
  have hp : persistN st body = (commit s'').txStore := by unfold persistN; rw [hrun]; rfl
  rw [hp]
  refine ⟨habs, fun a => ?_, fun a k => ?_⟩
  · obtain ⟨ga, _⟩ := view_parts (hB a)
    have hr := (hk a).1
    rw [← ga] at hr
    cases hx : (commit s'').txStore.acct a with
    | none =>
      rw [hx] at hr
      cases hy : AList.find? B.accts a with
      | none => rfl
      | some y => rw [hy] at hr; exact False.elim hr
    | some x =>
      rw [hx] at hr
      cases hy : AList.find? B.accts a with
      | none => rw [hy] at hr; exact False.elim hr
      | some y =>
        rw [hy] at hr
        obtain ⟨u, hu⟩ := hwhole a y hy
        obtain ⟨e1, e2, e3⟩ := hr
        have hw0 : weiPerUnibi ≠ 0 := by unfold weiPerUnibi; decide
        simp only [Option.map]
        rw [← e1, ← e2, e3, hu, Int.mul_tdiv_cancel _ hw0, ← hu]
  · rw [(view_parts (hB a)).2 k]; exact ((hk a).2 k).symm

/-- the side conditions of one transaction over `(st, b)`: `CreateAccount` only where `evm.create` may call it; the balances the
    reference persists are whole unibi (otherwise Nibiru's bank, which truncates, holds less than the reference at the next start);
    no materialised account ends the transaction empty (so the reference deletes nothing as empty) -/
structure TxOK (st : Store) (b : GethSpec.Base) (body : List Tree) : Prop where
  create : Tree.OKL2 st body
  whole : ∀ a y, AList.find? (persistG b body).accts a = some y → ∃ u : Int, y.2.2 = u * weiPerUnibi
  noEmpty : ∀ a, ¬ EndedEmpty (runGTL { base := b } body) a

theorem storeEq_step (st : Store) (b : GethSpec.Base) (h : StoreEq st b) (body : List Tree) (hok : TxOK st b body) :
    StoreEq (persistN st body) (persistG b body) :=
  storeEq_of_agree st b h body hok.create _
    (fun a => GethSpec.commit_eq_commitKeep_at _ a fun o ho hs he => hok.noEmpty a ⟨o, ho, hs, he.1, he.2.1, he.2.2⟩) hok.whole

def runTxsN (st : Store) : List (List Tree) → Store
  | [] => st
  | body :: rest => runTxsN (persistN st body) rest
def runTxsG (b : GethSpec.Base) : List (List Tree) → GethSpec.Base
  | [] => b
  | body :: rest => runTxsG (persistG b body) rest

/-- every transaction of the history meets its side conditions at the state it starts from -/
def AllOK (st : Store) (b : GethSpec.Base) : List (List Tree) → Prop
  | [] => True
  | body :: rest => TxOK st b body ∧ AllOK (persistN st body) (persistG b body) rest

/-- **C03 (partial) — any history of transactions without precompile calls.** Starting from equal persisted data, after ANY sequence
    of transactions (each any body of reads, writes, `CreateAccount`s and nested call frames, each followed by the respective
    write-back), Nibiru's store and go-ethereum's state hold the same accounts — nonce, code hash, balance — and the same value in
    every storage slot.  Side conditions per transaction (`TxOK`): `CreateAccount` where `evm.create` may call it, whole-unibi
    balances at write-back, and no account ends a transaction empty (that is where go-ethereum deletes and Nibiru keeps an empty
    record; the single-transaction theorem above covers it, the equality of the NEXT start states does not). -/
theorem C03_history_commits_match_reference_partial (txs : List (List Tree)) (st : Store) (b : GethSpec.Base)
    (h : StoreEq st b) (hok : AllOK st b txs) : StoreEq (runTxsN st txs) (runTxsG b txs) := by
  induction txs generalizing st b with
  | nil => exact h
  | cons body rest ih => exact ih _ _ (storeEq_step st b h body hok.1) hok.2

/-! ### non-vacuity of the history theorem: two transactions, side conditions evaluated by the kernel -/

def demoTx2 : List Tree :=
  [ .r (.state 1 0), .w (.addBalance 4 1000000000000), .frame false [ .w (.setNonce 4 9), .w (.setState 1 0 6) ], .w (.setState 1 2 3) ]

theorem demo_txok1 : TxOK demoStore demoBase demoTx :=
  ⟨demoTx_ok, whole_of_accts _ (by decide), demo_noEmpty⟩

def demoStore2 : Store := persistN demoStore demoTx
def demoBase2 : GethSpec.Base := persistG demoBase demoTx
def demoFinal2 : S := (runTL { txStore := demoStore2 } demoTx2).getD {}

theorem demo_txok2 : TxOK demoStore2 demoBase2 demoTx2 :=
  ⟨by simp [demoTx2, Tree.OKL2, Tree.OK2], whole_of_accts _ (by decide), noEmpty_of_objs _ (by decide)⟩

/-- two transactions in a row: the stores agree after both (account 1: nonce 2, code 7, 8 unibi, slots 0 ↦ 5 and 2 ↦ 3;
    account 4: 3 unibi) -/
example : StoreEq (runTxsN demoStore [demoTx, demoTx2]) (runTxsG demoBase [demoTx, demoTx2]) :=
  C03_history_commits_match_reference_partial _ _ _ ⟨demoStore_ok, demo_acc, fun _ _ => rfl⟩ ⟨demo_txok1, demo_txok2, True.intro⟩

end Nibiru.SDB
