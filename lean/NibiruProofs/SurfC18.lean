/-
  SurfC18 — GENERATED by bin/pin-surface (a developer tool) on the tree the models were written against; committed.
  The fingerprints of the functions property C18's model was written from (lib/surface.json) as they were then; the
  extractor recomputes them from /repo on every run (Generated.surface_C18).  A difference means that a modelled function
  changed structurally: the hand-written model is then no longer known to describe it, the obligation breaks and the check
  searches for a failing input (DESIGN §3, T1-S).
-/
import Generated.Facts

namespace Nibiru.Surface

def expected_C18 : List (String × String) := [
  ("app/ante.go:NewAnteHandlerNonEVM", "22d91c12e69bc42e"),
  ("x/devgas/v1/ante/ante.go:DevGasPayoutDecorator.AnteHandle", "b7c059965daf8519"),
  ("x/devgas/v1/ante/ante.go:DevGasPayoutDecorator.devGasPayout", "61dbe972492500f2"),
  ("x/devgas/v1/ante/ante.go:DevGasPayoutDecorator.getWithdrawAddressesFromMsgs", "273a8847744f89c3"),
  ("x/devgas/v1/ante/ante.go:DevGasPayoutDecorator.settleFeePayments", "2f2f22f720992b06"),
  ("x/devgas/v1/ante/ante.go:FeePayLogic", "b0dac69040624a57"),
  ("x/devgas/v1/ante/ante.go:NewDevGasPayoutDecorator", "f5880e564b080cf5"),
  ("x/devgas/v1/ante/ante.go:getAllowedFees", "a1b6e52ef7ff8c26"),
  ("x/devgas/v1/keeper/feeshare.go:Keeper.GetFeeShare", "ad1f9ac3a8fae300"),
  ("x/devgas/v1/keeper/feeshare.go:Keeper.IsFeeShareRegistered", "693fc5346b77421f"),
  ("x/devgas/v1/keeper/feeshare.go:Keeper.SetFeeShare", "e3af55ceed19c664"),
  ("x/devgas/v1/keeper/msg_server.go:Keeper.CancelFeeShare", "694c6f72e2860190"),
  ("x/devgas/v1/keeper/msg_server.go:Keeper.GetContractAdminOrCreatorAddress", "a02064b2d7b97298"),
  ("x/devgas/v1/keeper/msg_server.go:Keeper.RegisterFeeShare", "eef144e3769cb152"),
  ("x/devgas/v1/keeper/msg_server.go:Keeper.UpdateFeeShare", "ddc4411f9b8b47a6"),
  ("x/devgas/v1/keeper/msg_server.go:Keeper.UpdateParams", "b89ab330881ea116"),
  ("x/devgas/v1/keeper/msg_server.go:Keeper.isContractCreatedFromFactory", "99f319029b67b540"),
  ("x/devgas/v1/types/params.go:DefaultParams", "e83fdcd26bbf2e33"),
  ("x/devgas/v1/types/params.go:ModuleParams.Sanitize", "0435b8388e6e9128"),
  ("x/devgas/v1/types/params.go:ModuleParams.Validate", "abbee5850ec6bde5"),
  ("x/devgas/v1/types/params.go:NewParams", "f2f336d2d88feddb"),
  ("x/devgas/v1/types/params.go:validateArray", "11c72b0ec2752eb0"),
  ("x/devgas/v1/types/params.go:validateBool", "66355610f2ef34a3"),
  ("x/devgas/v1/types/params.go:validateShares", "a3597897359dc998")]

/-- 24 declarations -/
theorem fact_C18_surface_fingerprints : Generated.surface_C18 = expected_C18 := rfl

end Nibiru.Surface
