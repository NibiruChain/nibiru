/-
  C04 — Call-frame atomicity across EVM state and precompile side effects.
  Theorems about NibiruModel.StateDB. On the unchanged tree the full property is FALSE (known finding, see DESIGN.md §7 C04):
  the counterexample theorems below are closed terms checked by the kernel and replayed on the real StateDB by the probes.
-/
import NibiruModel.StateDB
import NibiruProofs.SDBRevert
import NibiruProofs.SDBCommit
import Generated.Facts
namespace Nibiru.SDB

/-! ### counterexamples (the property fails for the code as it is) -/

/-- account 1 exists (contract), slot 0 is empty -/
def cex0 : S := { txStore := { accts := [(1, { nonce := 1, codeHash := 7, balance := 5 })] } }

/-- **Lost write.** `SetState(1, slot 0 := 7)` in the outer frame; then a frame that calls a precompile is reverted; the
    transaction commits. Inside the transaction the slot reads 7, but the committed store has 0: a change made *outside* the
    reverted frame is lost. (The intermediate flush of `OnRunStart` set `OriginStorage[0] = 7` and the dirty count to 0; the
    journal restores neither, and the final commit skips slots equal to the origin.) -/
theorem C04_counterexample_lost_write :
    let s1 := setState cex0 1 0 7
    let (s2, id) := snapshot s1
    let (s3, _) := precompile s2 .none
    let s4 := (revertToSnapshot s3 id).getD s3
    (getState s4 1 0).2 = 7 ∧ (commit s4).txStore.slot 1 0 = 0 := by
  decide

/-- account 0 holds 100 unibi, account 3 does not exist and has not been touched in this transaction -/
def cex1 : S := { txStore := { accts := [(0, { nonce := 0, codeHash := 0, balance := 100 })] } }

/-- **Stale balance.** A precompile moves 16 unibi from 0 to the untouched account 3 inside a frame that is then reverted. The
    bank (cache context) is restored, but the StateDB keeps showing 16·10^12 wei for account 3: the object was loaded *after*
    the bank move, so the journaled "previous balance" is already the new one. EVM view and bank view disagree. -/
theorem C04_counterexample_stale_balance :
    let (sa, _) := readAcc cex1 0          -- the sender is already loaded, as in a real transaction
    let (s1, id) := snapshot sa
    let (s2, r) := precompile s1 (.moveUnibi 0 3 16)
    let s3 := (revertToSnapshot s2 id).getD s2
    r = "ok" ∧ (readAcc s3 3).2.balance = 16 * weiPerUnibi ∧ ((curStore s3).acct 3) = none ∧
    (readAcc s3 0).2.balance = 100 * weiPerUnibi := by
  decide

/-! ### what does hold -/

theorem getObj_cache (s : S) (a : Nat) : (getObj s a).1.cache = s.cache ∧ (getObj s a).1.txStore = s.txStore ∧
    (getObj s a).1.journal = s.journal := by
  unfold getObj
  split
  · exact ⟨rfl, rfl, rfl⟩
  · split <;> exact ⟨rfl, rfl, rfl⟩

/-- reverting any journal entry other than a precompile entry leaves the multistore (cache context) untouched -/
theorem revertEntry_cache (s : S) (e : Entry) (h : ∀ c, e ≠ .precompile c) : (revertEntry s e).cache = s.cache := by
  cases e with
  | precompile c => exact absurd rfl (h c)
  | createObject a => rfl
  | resetObject a p => rfl
  | refund p => rfl
  | addLog => rfl
  | alAddr a => rfl
  | alSlot a k => rfl
  | suicide a p b =>
    simp only [revertEntry]
    have := getObj_cache s a
    split <;> simp_all [setObj]
  | balance a p =>
    simp only [revertEntry]
    have := getObj_cache s a
    split <;> simp_all [setObj]
  | nonce a p =>
    simp only [revertEntry]
    have := getObj_cache s a
    split <;> simp_all [setObj]
  | code a p =>
    simp only [revertEntry]
    have := getObj_cache s a
    split <;> simp_all [setObj]
  | storage a k p =>
    simp only [revertEntry]
    have := getObj_cache s a
    split <;> simp_all [setObj]

/-- **The multistore side of a precompile call is undone by its journal entry**: reverting the `PrecompileCalled` entry puts the
    cache context back to exactly the store saved when the call started — every bank / wasm / other-module write of the call and
    the flush of dirty EVM state that preceded it disappear together. -/
theorem C04_precompile_entry_restores_multistore (s : S) (saved : Store) :
    (revertEntry s (.precompile saved)).cache = some saved := rfl

theorem getOrNew_cache (s : S) (a : Nat) : (getOrNew s a).1.cache = s.cache ∧ (getOrNew s a).1.txStore = s.txStore := by
  unfold getOrNew
  have := getObj_cache s a
  split
  · simp_all
  · simp_all [setObj, append]

theorem setBalance_cache (s : S) (a : Nat) (v : Int) : (setBalance s a v).cache = s.cache ∧ (setBalance s a v).txStore = s.txStore := by
  unfold setBalance
  have := getOrNew_cache s a
  simp_all [setObj, append]

theorem setBalance_objs (s : S) (a : Nat) (v : Int) :
    ∃ o, AList.find? (setBalance s a v).objs a = some o ∧ o.balance = v := by
  unfold setBalance
  simp only [setObj, append]
  exact ⟨_, AList.find?_set_self _ _ _, rfl⟩

theorem readAcc_of_obj (s : S) (a : Nat) (o : Obj) (h : AList.find? s.objs a = some o) : (readAcc s a).2.balance = o.balance := by
  unfold readAcc getObj
  simp [h]

theorem curStore_setBalance (s : S) (a : Nat) (v : Int) : curStore (setBalance s a v) = curStore s := by
  unfold curStore; rw [(setBalance_cache s a v).1, (setBalance_cache s a v).2]

/-- **Balance views agree right after a bank-moving precompile returns**: an account whose balance the bank extension mirrors
    (`SyncStateDBWithAccount`) reads, in the StateDB, exactly the bank balance of the current context (in wei). -/
theorem C04_balance_views_agree_after_sync (s : S) (a : Nat) :
    (readAcc (syncBalance s a) a).2.balance = ((((curStore (syncBalance s a)).acct a).map (·.balance)).getD 0) * weiPerUnibi := by
  unfold syncBalance
  obtain ⟨o, ho, hb⟩ := setBalance_objs s a (((((curStore s).acct a).map (·.balance)).getD 0) * weiPerUnibi)
  rw [readAcc_of_obj _ a o ho, hb, curStore_setBalance]

/-- **C04 (partial: frames without a precompile call).** A call frame is `Snapshot`, any sequence of EVM writes (balance, nonce,
    code, storage, self-destruct, logs, refunds, access list) on accounts the interpreter has read, and — on failure —
    `RevertToSnapshot`: every observable of the StateDB is then exactly what it was before the frame, for every such sequence
    (NibiruProofs/SDBRevert.lean). The counterexamples above show that this stops being true as soon as the frame contains a Nibiru
    precompile call (the intermediate flush is not journaled). -/
theorem C04_frame_revert_restores_partial {A : List Nat} (s : S) (hc : Cached A s) (hrev : ∀ r ∈ s.revisions, r.1 < s.nextRev)
    (ws : List WOp) (hw : ∀ w ∈ ws, ∀ a, w.acct = some a → a ∈ A) :
    ∃ s3, revertToSnapshot (applyAll (snapshot s).1 ws) (snapshot s).2 = some s3 ∧ Eqv A s3 s :=
  snapshot_revert_restores s hc hrev ws hw

/-- **C04 (partial: transactions without a precompile call) — the committed state is the final EVM view.** Start from any
    well-formed StateDB without a precompile cache context (e.g. a fresh one over any store), apply ANY sequence of interpreter
    writes, and `Commit`: for every live account the sequence dirtied, the store then holds exactly what the EVM saw at the end
    (nonce, code hash, balance in whole unibi, the current value of every slot); accounts no journal entry dirtied are untouched
    (NibiruProofs/SDBCommit.lean, for stores / objects / dirties maps of any size). `C04_counterexample_lost_write` shows that the
    slot part fails once a precompile flush happened in a reverted frame. -/
theorem C04_commit_persists_final_view_partial (s0 : S) (h0 : WF s0) (ws : List WOp) (a : Nat) (o : Obj)
    (ho : AList.find? (applyAll s0 ws).objs a = some o) (hd : a ∈ (applyAll s0 ws).dirties.map (·.1)) (hs : o.suicided = false) :
    (commit (applyAll s0 ws)).txStore.acct a =
        some { nonce := o.nonce, codeHash := o.codeHash, balance := Int.tdiv o.balance weiPerUnibi } ∧
    ∀ k, (commit (applyAll s0 ws)).txStore.slot a k = objState (applyAll s0 ws) a o k :=
  commit_persists_view _ (WF_applyAll ws s0 h0).1 a o ho hd hs

theorem C04_commit_leaves_clean_accounts_partial (s0 : S) (h0 : WF s0) (ws : List WOp) (a : Nat)
    (hd : a ∉ (applyAll s0 ws).dirties.map (·.1)) :
    (commit (applyAll s0 ws)).txStore.acct a = s0.txStore.acct a ∧
    ∀ k, (commit (applyAll s0 ws)).txStore.slot a k = s0.txStore.slot a k := by
  obtain ⟨h1, h2⟩ := WF_applyAll ws s0 h0
  have := commit_frame _ h1.1 a hd
  rw [h2] at this
  exact this

theorem C04_commit_deletes_selfdestructed_partial (s0 : S) (h0 : WF s0) (ws : List WOp) (a : Nat) (o : Obj)
    (ho : AList.find? (applyAll s0 ws).objs a = some o) (hd : a ∈ (applyAll s0 ws).dirties.map (·.1)) (hs : o.suicided = true) :
    (commit (applyAll s0 ws)).txStore.acct a = none :=
  (commit_deletes_suicided _ (WF_applyAll ws s0 h0).1.1 a o ho hd hs).1

/-- the hypotheses are met by a concrete non-trivial history: over `cex0`'s store, `SetState(1, 0 := 7)`, `AddBalance(1, 2 unibi)`,
    `SetNonce(1, 2)`: account 1 is cached, dirty and alive, and the committed store shows nonce 2, balance 7, slot 0 = 7 -/
example :
    let s := applyAll cex0 [.setState 1 0 7, .addBalance 1 2000000000000, .setNonce 1 2]
    WF cex0 ∧ (∃ o, AList.find? s.objs 1 = some o ∧ o.suicided = false) ∧ 1 ∈ s.dirties.map (·.1) ∧
      (commit s).txStore.acct 1 = some { nonce := 2, codeHash := 7, balance := 7 } ∧ (commit s).txStore.slot 1 0 = 7 := by
  refine ⟨WF_fresh _, ?_, ?_, ?_, ?_⟩ <;> decide

/-! ### T1 (regenerated from x/evm/precompile/precompile.go on every run) -/

/-- every precompile call, whatever the method, enters through the same three unconditional StateDB calls: take the cache
    context, journal the multistore snapshot (`PrecompileCalled`, which also enforces the per-tx limit), flush the dirty StateDB —
    the sequence `NibiruModel.StateDB.precompile` models and `C04_precompile_entry_restores_multistore` speaks about -/
theorem fact_C04_onRunStart_sequence : Generated.onRunStartStateDBCalls =
    [("CacheCtxForPrecompile", "-"), ("SavePrecompileCalledJournalChange", "-"), ("CommitCacheCtx", "-")] := rfl

/-- the dirty-count bookkeeping of the journal, as the model's `append` / `revertTo` / `unDirty` were written from it: `append`
    increments the count of the entry's `Dirtied()` address; `Revert` walks the entries from the end down to the snapshot, reverts
    each, decrements the count of its address and deletes the address from the map exactly when the count reaches zero (`== 0`: a
    count driven below zero after an intermediate flush keeps the address — see the known finding C04-lost-write) -/
theorem fact_C04_journal_dirty_count_bookkeeping :
    Generated.journalBookkeeping =
      ["journal.append = assign:j.entries ; call:append ; if:addr != nil ; assign:addr ; call:entry.Dirtied ; ++:j.dirties[*addr]",
       "journal.Revert = for:i >= snapshot ; assign:i ; call:len ; --:i ; call:j.entries[i].Revert ; if:addr != nil ; assign:addr ; call:j.entries[i].Dirtied ; if:j.dirties[*addr] == 0 ; --:j.dirties[*addr] ; call:delete ; assign:j.entries"] := rfl

/-- the write-back, as the model's `commit` / `commitCache` / `commitInto` / `flushObj` were written from it: `Commit` first writes the
    cache context back (if one exists) and then flushes into the transaction context, `CommitCacheCtx` flushes into the cache
    context; the flush walks the SORTED dirty addresses; a missing object only resets the count; a self-destructed object is deleted
    from the keeper and from `stateObjects`; any other object gets its code (if dirty), its account record, and every dirty slot
    whose value differs from `OriginStorage[key]` — which is then advanced to the written value; the count is reset to 0 -/
theorem fact_C04_commit_skeleton :
    Generated.commitSkeletons =
      ["StateDB.Commit = if:s.writeToCommitCtxFromCacheCtx != nil ; call:s.writeToCommitCtxFromCacheCtx ; return:s.commitCtx(s.GetEvmTxContext()) ; call:s.commitCtx ; call:s.GetEvmTxContext",
       "StateDB.CommitCacheCtx = return:s.commitCtx(s.cacheCtx) ; call:s.commitCtx",
       "StateDB.commitCtx = range:s.Journal.sortedDirties() ; call:s.Journal.sortedDirties ; assign:obj ; call:s.getStateObject ; if:obj == nil ; assign:s.Journal.dirties[addr] ; continue ; if:obj.Suicided ; if:err != nil ; assign:err ; call:s.keeper.DeleteAccount ; call:obj.Address ; return:errorf(\"failed to delete account: %w\", err) ; call:errorf ; call:delete ; if:obj.code != nil && obj.DirtyCode ; call:s.keeper.SetCode ; call:obj.CodeHash ; if:err != nil ; assign:err ; call:s.keeper.SetAccount ; call:obj.Address ; call:obj.account.ToNative ; return:errorf(\"failed to set account: %w\", err) ; call:errorf ; range:obj.DirtyStorage.SortedKeys() ; call:obj.DirtyStorage.SortedKeys ; assign:dirtyVal ; if:dirtyVal == obj.OriginStorage[key] ; continue ; call:s.keeper.SetState ; call:obj.Address ; call:dirtyVal.Bytes ; assign:obj.OriginStorage[key] ; assign:s.Journal.dirties[addr] ; return:nil"] := rfl

end Nibiru.SDB
