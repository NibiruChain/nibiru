/-
  SurfC07 — GENERATED by bin/pin-surface (a developer tool) on the tree the models were written against; committed.
  The fingerprints of the functions property C07's model was written from (lib/surface.json) as they were then; the
  extractor recomputes them from /repo on every run (Generated.surface_C07).  A difference means that a modelled function
  changed structurally: the hand-written model is then no longer known to describe it, the obligation breaks and the check
  searches for a failing input (DESIGN §3, T1-S).
-/
import Generated.Facts

namespace Nibiru.Surface

def expected_C07 : List (String × String) := [
  ("app/evmante/evmante_increment_sender_seq.go:AnteDecEthIncrementSenderSequence.AnteHandle", "2f50cd6e1e05b412"),
  ("app/evmante/evmante_sigverify.go:EthSigVerificationDecorator.AnteHandle", "77e182084b3ff714"),
  ("app/evmante/evmante_sigverify.go:NewEthSigVerificationDecorator", "e7877818f0dd5608"),
  ("app/evmante/evmante_validate_basic.go:EthValidateBasicDecorator.AnteHandle", "58276eadc6a0cc92"),
  ("app/evmante/evmante_validate_basic.go:NewEthValidateBasicDecorator", "519f0ed2360c24ef"),
  ("eth/chain_id.go:IsValidChainID", "d39601be76c91b39"),
  ("eth/chain_id.go:ParseEthChainID", "4046b092662420b2"),
  ("eth/chain_id.go:ParseEthChainIDStrict", "1f25cd8ea69561b8"),
  ("eth/chain_id.go:nibiruEvmChainId", "6b129e3a3806bb37"),
  ("eth/chain_id.go:regexChainID", "ebf1e899fece9564"),
  ("eth/chain_id.go:regexEIP155", "0194c4528327995b"),
  ("eth/chain_id.go:regexEIP155Separator", "e7266fea1e702376"),
  ("eth/chain_id.go:regexEpoch", "77247b26abf4dd78"),
  ("eth/chain_id.go:regexEpochSeparator", "2d85a08d05116112"),
  ("x/evm/keeper/bank_extension.go:Keeper.NewStateDB", "a116621a4fbcd971"),
  ("x/evm/keeper/bank_extension.go:NibiruBankKeeper.BurnCoins", "94ad2a0ac4ee19fe"),
  ("x/evm/keeper/bank_extension.go:NibiruBankKeeper.DelegateCoins", "925b20b9407936ae"),
  ("x/evm/keeper/bank_extension.go:NibiruBankKeeper.DelegateCoinsFromAccountToModule", "e953510c32f22cd5"),
  ("x/evm/keeper/bank_extension.go:NibiruBankKeeper.ForceGasInvariant", "439244c89dd5eb8d"),
  ("x/evm/keeper/bank_extension.go:NibiruBankKeeper.InputOutputCoins", "7a19517b333291ca"),
  ("x/evm/keeper/bank_extension.go:NibiruBankKeeper.MintCoins", "6ff04b3715f4ca63"),
  ("x/evm/keeper/bank_extension.go:NibiruBankKeeper.SendCoins", "7ebb556bc0e6e5ec"),
  ("x/evm/keeper/bank_extension.go:NibiruBankKeeper.SendCoinsFromAccountToModule", "b2b858f899bc0e68"),
  ("x/evm/keeper/bank_extension.go:NibiruBankKeeper.SendCoinsFromModuleToAccount", "dc1586e913fc3c9f"),
  ("x/evm/keeper/bank_extension.go:NibiruBankKeeper.SendCoinsFromModuleToModule", "f40f796a6d68286c"),
  ("x/evm/keeper/bank_extension.go:NibiruBankKeeper.SyncStateDBWithAccount", "ec6c5c859cf7c34b"),
  ("x/evm/keeper/bank_extension.go:NibiruBankKeeper.UndelegateCoins", "b7e54dd4eaf9740e"),
  ("x/evm/keeper/bank_extension.go:NibiruBankKeeper.UndelegateCoinsFromModuleToAccount", "937d529ed7e2bb8b"),
  ("x/evm/keeper/bank_extension.go:findEtherBalanceChangeFromCoins", "3a24dedc433afcde"),
  ("x/evm/keeper/msg_server.go:Keeper.ApplyEvmMsg", "7ca606433c5e3fc4"),
  ("x/evm/keeper/msg_server.go:Keeper.EthereumTx", "ff1cfaf67307fa3e"),
  ("x/evm/keeper/statedb.go:Keeper.DeleteAccount", "55444b6d1b75c166"),
  ("x/evm/keeper/statedb.go:Keeper.ForEachStorage", "32470b2c4c9d3677"),
  ("x/evm/keeper/statedb.go:Keeper.GetAccount", "b6bf1ae760d5acd3"),
  ("x/evm/keeper/statedb.go:Keeper.GetCode", "163831ba038a22c2"),
  ("x/evm/keeper/statedb.go:Keeper.SetAccBalance", "65c00e6bf4f06eb5"),
  ("x/evm/keeper/statedb.go:Keeper.SetAccount", "ad98931ec0106cd3"),
  ("x/evm/keeper/statedb.go:Keeper.SetCode", "d3263f629b7c5002"),
  ("x/evm/keeper/statedb.go:Keeper.SetState", "651fba93de3074a1"),
  ("x/evm/keeper/statedb.go:Keeper.getAccountWithoutBalance", "c82c12b12a4b8d9a"),
  ("x/evm/msg.go:MsgEthereumTx.ValidateBasic", "d7bf128229f3d3ff"),
  ("x/evm/precompile/precompile.go:OnRunStart", "3938ac3cfd11eae7"),
  ("x/evm/statedb/journal.go:PrecompileCalled.Revert", "59987db5ca4740f2"),
  ("x/evm/statedb/statedb.go:StateDB.CacheCtxForPrecompile", "34a11d12b4a8730d"),
  ("x/evm/statedb/statedb.go:StateDB.Commit", "a8e7d08197cba9ef"),
  ("x/evm/statedb/statedb.go:StateDB.CommitCacheCtx", "f738a98987d3471b"),
  ("x/evm/statedb/statedb.go:StateDB.GetNonce", "69b92a2c15229c94"),
  ("x/evm/statedb/statedb.go:StateDB.PrepareAccessList", "d68907c57406a19d"),
  ("x/evm/statedb/statedb.go:StateDB.SavePrecompileCalledJournalChange", "2e9762e5899ca87e"),
  ("x/evm/statedb/statedb.go:StateDB.SetNonce", "af88a29380665a04"),
  ("x/evm/statedb/statedb.go:StateDB.commitCtx", "745cd81657edc9f7")]

/-- 51 declarations -/
theorem fact_C07_surface_fingerprints : Generated.surface_C07 = expected_C07 := rfl

end Nibiru.Surface
