/-
  SurfC09 — GENERATED by bin/pin-surface (a developer tool) on the tree the models were written against; committed.
  The fingerprints of the functions property C09's model was written from (lib/surface.json) as they were then; the
  extractor recomputes them from /repo on every run (Generated.surface_C09).  A difference means that a modelled function
  changed structurally: the hand-written model is then no longer known to describe it, the obligation breaks and the check
  searches for a failing input (DESIGN §3, T1-S).
-/
import Generated.Facts

namespace Nibiru.Surface

def expected_C09 : List (String × String) := [
  ("x/evm/const.go:BASE_FEE_MICRONIBI", "b3c7c09fd5f787e9"),
  ("x/evm/embeds/embeds.go:CompiledEvmContract.MustLoad", "a358c7cb5e5d343e"),
  ("x/evm/embeds/embeds.go:SmartContract_ERC20Minter", "1b6068b07e44ed40"),
  ("x/evm/embeds/embeds.go:SmartContract_ERC20MinterWithMetadataUpdates", "93563e95753b23fe"),
  ("x/evm/embeds/embeds.go:SmartContract_FunToken", "ba58df8fa1ee3b3f"),
  ("x/evm/embeds/embeds.go:SmartContract_Oracle", "706bef2368c62e61"),
  ("x/evm/embeds/embeds.go:SmartContract_TestBytes32Metadata", "7c8821004d01dece"),
  ("x/evm/embeds/embeds.go:SmartContract_TestDirtyStateAttack4", "815248b7beb6941c"),
  ("x/evm/embeds/embeds.go:SmartContract_TestDirtyStateAttack5", "e21260e25f2172c1"),
  ("x/evm/embeds/embeds.go:SmartContract_TestERC20", "519ee30d978035e1"),
  ("x/evm/embeds/embeds.go:SmartContract_TestERC20MaliciousName", "c41f2779e24db994"),
  ("x/evm/embeds/embeds.go:SmartContract_TestERC20MaliciousTransfer", "3eb0020f428dc016"),
  ("x/evm/embeds/embeds.go:SmartContract_TestERC20TransferThenPrecompileSend", "8805d96cfe42f1b9"),
  ("x/evm/embeds/embeds.go:SmartContract_TestERC20TransferWithFee", "b0c152ac5bc47b06"),
  ("x/evm/embeds/embeds.go:SmartContract_TestFunTokenPrecompileLocalGas", "1d0e619da6925ff3"),
  ("x/evm/embeds/embeds.go:SmartContract_TestInfiniteRecursionERC20", "1d6ae4311a047892"),
  ("x/evm/embeds/embeds.go:SmartContract_TestNativeSendThenPrecompileSendJson", "2dc629f5d5d7c5a5"),
  ("x/evm/embeds/embeds.go:SmartContract_TestPrecompileSelfCallRevert", "ffc215137da1b0a5"),
  ("x/evm/embeds/embeds.go:SmartContract_TestPrecompileSendToBankThenERC20Transfer", "9538d1c96dff82f4"),
  ("x/evm/embeds/embeds.go:SmartContract_TestRandom", "539fc887d48afdcb"),
  ("x/evm/embeds/embeds.go:SmartContract_Wasm", "a5c72511adbb7afb"),
  ("x/evm/embeds/embeds.go:erc20MinterContractJSON", "8e5fe8bcb22a51d9"),
  ("x/evm/embeds/embeds.go:erc20MinterWithMetadataUpdatesContractJSON", "277ee2145731d71e"),
  ("x/evm/embeds/embeds.go:funtokenPrecompileJSON", "4c996efc69592c29"),
  ("x/evm/embeds/embeds.go:init", "07aec754294ff79d"),
  ("x/evm/embeds/embeds.go:oracleContractJSON", "232939e1b0abb0a9"),
  ("x/evm/embeds/embeds.go:testDirtyStateAttack4", "ed7b0cebf19e4453"),
  ("x/evm/embeds/embeds.go:testDirtyStateAttack5", "a48761b257aafad2"),
  ("x/evm/embeds/embeds.go:testERC20TransferThenPrecompileSendJson", "e59d7b7c8f50c64c"),
  ("x/evm/embeds/embeds.go:testERC20TransferWithFee", "650c123bb022c966"),
  ("x/evm/embeds/embeds.go:testErc20Json", "6a034d36c8084284"),
  ("x/evm/embeds/embeds.go:testErc20MaliciousNameJson", "9b7c88158baf6791"),
  ("x/evm/embeds/embeds.go:testErc20MaliciousTransferJson", "d88976f4bd9996f7"),
  ("x/evm/embeds/embeds.go:testFunTokenPrecompileLocalGasJson", "4356d27b7486bde0"),
  ("x/evm/embeds/embeds.go:testInfiniteRecursionERC20Json", "664d094f8eaf18c4"),
  ("x/evm/embeds/embeds.go:testMetadataBytes32", "de3a0c8b1f906681"),
  ("x/evm/embeds/embeds.go:testNativeSendThenPrecompileSendJson", "43ab8f3f47c53f95"),
  ("x/evm/embeds/embeds.go:testPrecompileSelfCallRevertJson", "436b4dbdf71e99eb"),
  ("x/evm/embeds/embeds.go:testPrecompileSendToBankThenERC20Transfer", "ffe3d4645ae8fa25"),
  ("x/evm/embeds/embeds.go:testRandom", "7132d52c332ced9d"),
  ("x/evm/embeds/embeds.go:wasmPrecompileJSON", "a76cbf09f3d92905"),
  ("x/evm/keeper/bank_extension.go:Keeper.NewStateDB", "a116621a4fbcd971"),
  ("x/evm/keeper/bank_extension.go:NibiruBankKeeper.BurnCoins", "94ad2a0ac4ee19fe"),
  ("x/evm/keeper/bank_extension.go:NibiruBankKeeper.DelegateCoins", "925b20b9407936ae"),
  ("x/evm/keeper/bank_extension.go:NibiruBankKeeper.DelegateCoinsFromAccountToModule", "e953510c32f22cd5"),
  ("x/evm/keeper/bank_extension.go:NibiruBankKeeper.ForceGasInvariant", "439244c89dd5eb8d"),
  ("x/evm/keeper/bank_extension.go:NibiruBankKeeper.InputOutputCoins", "7a19517b333291ca"),
  ("x/evm/keeper/bank_extension.go:NibiruBankKeeper.MintCoins", "6ff04b3715f4ca63"),
  ("x/evm/keeper/bank_extension.go:NibiruBankKeeper.SendCoins", "7ebb556bc0e6e5ec"),
  ("x/evm/keeper/bank_extension.go:NibiruBankKeeper.SendCoinsFromAccountToModule", "b2b858f899bc0e68"),
  ("x/evm/keeper/bank_extension.go:NibiruBankKeeper.SendCoinsFromModuleToAccount", "dc1586e913fc3c9f"),
  ("x/evm/keeper/bank_extension.go:NibiruBankKeeper.SendCoinsFromModuleToModule", "f40f796a6d68286c"),
  ("x/evm/keeper/bank_extension.go:NibiruBankKeeper.SyncStateDBWithAccount", "ec6c5c859cf7c34b"),
  ("x/evm/keeper/bank_extension.go:NibiruBankKeeper.UndelegateCoins", "b7e54dd4eaf9740e"),
  ("x/evm/keeper/bank_extension.go:NibiruBankKeeper.UndelegateCoinsFromModuleToAccount", "937d529ed7e2bb8b"),
  ("x/evm/keeper/bank_extension.go:findEtherBalanceChangeFromCoins", "3a24dedc433afcde"),
  ("x/evm/keeper/funtoken_from_coin.go:Keeper.createFunTokenFromCoin", "87b36e1f720a7c40"),
  ("x/evm/keeper/funtoken_from_erc20.go:Keeper.createFunTokenFromERC20", "bffadc69c8d63481"),
  ("x/evm/keeper/grpc_query.go:DefaultGethTraceTimeout", "c013776b586f36df"),
  ("x/evm/keeper/grpc_query.go:Keeper.Balance", "fe952449e3741fec"),
  ("x/evm/keeper/grpc_query.go:Keeper.BaseFee", "2b5f6a0e4d795a57"),
  ("x/evm/keeper/grpc_query.go:Keeper.Code", "eeebe2a510757aeb"),
  ("x/evm/keeper/grpc_query.go:Keeper.EstimateGas", "20b31c452cd0b689"),
  ("x/evm/keeper/grpc_query.go:Keeper.EstimateGasForEvmCallType", "85bf40c5a120c46e"),
  ("x/evm/keeper/grpc_query.go:Keeper.EthAccount", "0b71e0e1118eb22e"),
  ("x/evm/keeper/grpc_query.go:Keeper.EthCall", "de8fcd89e61cb07c"),
  ("x/evm/keeper/grpc_query.go:Keeper.FunTokenMapping", "8611daede53de1a9"),
  ("x/evm/keeper/grpc_query.go:Keeper.Params", "332c49eea4c204fa"),
  ("x/evm/keeper/grpc_query.go:Keeper.Storage", "55ddd2cd54721303"),
  ("x/evm/keeper/grpc_query.go:Keeper.TraceBlock", "3394d567e55b8545"),
  ("x/evm/keeper/grpc_query.go:Keeper.TraceCall", "9b52509aa419cb73"),
  ("x/evm/keeper/grpc_query.go:Keeper.TraceEthTxMsg", "cace846f18bc733c"),
  ("x/evm/keeper/grpc_query.go:Keeper.TraceTx", "6b3d2976414fdf00"),
  ("x/evm/keeper/grpc_query.go:Keeper.ValidatorAccount", "ddf71892694337a2"),
  ("x/evm/keeper/keeper.go:HandleOutOfGasPanic", "0d6655193508805b"),
  ("x/evm/keeper/keeper.go:Keeper.BaseFeeMicronibiPerGas", "4fc608fde500dc67"),
  ("x/evm/keeper/keeper.go:Keeper.BaseFeeWeiPerGas", "0e013df8eb002a93"),
  ("x/evm/keeper/keeper.go:Keeper.EthChainID", "c5619ee1e9731ae9"),
  ("x/evm/keeper/keeper.go:Keeper.GetEvmGasBalance", "8d6a9dbf4544bf92"),
  ("x/evm/keeper/keeper.go:Keeper.Logger", "3d60b8803710ae3e"),
  ("x/evm/keeper/keeper.go:Keeper.Tracer", "d531271126377ec1"),
  ("x/evm/keeper/keeper.go:NewKeeper", "347253ae9dad8d4a"),
  ("x/evm/keeper/msg_server.go:Keeper.ConvertCoinToEvm", "6313692c02980fa6"),
  ("x/evm/keeper/msg_server.go:Keeper.CreateFunToken", "e89518b9a8e6937d"),
  ("x/evm/keeper/msg_server.go:Keeper.EthereumTx", "ff1cfaf67307fa3e"),
  ("x/evm/keeper/msg_server.go:Keeper.deductCreateFunTokenFee", "afa56bd68087f9fc"),
  ("x/evm/keeper/statedb.go:Keeper.SetAccBalance", "65c00e6bf4f06eb5"),
  ("x/evm/keeper/vm_config.go:Keeper.GetCoinbaseAddress", "e66a43130a6ec44e"),
  ("x/evm/keeper/vm_config.go:Keeper.GetEVMConfig", "4d76c509ded68a43"),
  ("x/evm/keeper/vm_config.go:Keeper.TxConfig", "3f445ca5ed71c086"),
  ("x/evm/keeper/vm_config.go:Keeper.VMConfig", "b7cdc80a112df1cc"),
  ("x/evm/keeper/vm_config.go:ParseProposerAddr", "bf6aab415f92ec7b"),
  ("x/evm/precompile/funtoken.go:precompileFunToken.sendToBank", "d523551b46b17186"),
  ("x/evm/tx.go:GetTxPriority", "32d1396501b24eb7"),
  ("x/evm/tx_data_dynamic_fee.go:BigIntMax", "1b7ec85d94af96c8")]

/-- 95 declarations -/
theorem fact_C09_surface_fingerprints : Generated.surface_C09 = expected_C09 := rfl

end Nibiru.Surface
