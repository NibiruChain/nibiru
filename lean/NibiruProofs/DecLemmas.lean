/-
  Shared lemmas about NibiruModel.SdkDec (LegacyDec on raw integers).
-/
import NibiruModel.SdkDec
namespace Nibiru.Dec

theorem prec_pos : (0 : Int) < prec := by decide

theorem chopRoundNat_mul_prec (x : Int) : chopRoundNat (x * prec) = x := by
  unfold chopRoundNat
  rw [Int.mul_emod_left, if_pos rfl]
  exact Int.mul_ediv_cancel x (Int.ne_of_gt prec_pos)

theorem chopRound_mul_prec (x : Int) : chopRound (x * prec) = x := by
  unfold chopRound
  split
  · rw [← Int.neg_mul, chopRoundNat_mul_prec, Int.neg_neg]
  · exact chopRoundNat_mul_prec x

/-- NewDecFromInt(m).Mul(p) is exactly m·p (no rounding happens) -/
theorem mul_ofInt (m p : Int) : mul (ofInt m) p = m * p := by
  unfold mul ofInt
  rw [Int.mul_right_comm, chopRound_mul_prec]

theorem tdiv_nonneg_eq (a b : Int) (h : 0 ≤ a) : Int.tdiv a b = a / b := Int.tdiv_eq_ediv_of_nonneg h

end Nibiru.Dec
