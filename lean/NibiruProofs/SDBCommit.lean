/-
  SDBCommit — what `StateDB.Commit` (NibiruModel.StateDB.commit / commitInto) persists.

  For every address of the journal's dirties map whose object is cached, `commitInto` writes exactly the StateDB's final view of
  that account (nonce, code hash, balance in whole unibi; every slot's current value) into the store, deletes self-destructed
  accounts, and leaves every other account and slot of the store untouched — for stores, objects and dirties maps of any size.
  The order in which addresses (sorted) and slots (sorted) are written does not matter for the result, which is why the proof goes
  through a generic "effect of a fold at one key" lemma: seen at one key, a fold over a duplicate-free key list is the single step
  at that key (`foldl_at`), or nothing (`foldl_notin`).
-/
import NibiruModel.StateDB
import NibiruProofs.SDBRevert

namespace Nibiru.SDB
open Nibiru

/-! ### sortNat: same elements, strictly ascending -/

theorem mem_insertSortedNat (l : List Nat) (x y : Nat) : y ∈ insertSortedNat l x ↔ y = x ∨ y ∈ l := by
  induction l with
  | nil => simp [insertSortedNat]
  | cons z zs ih =>
    unfold insertSortedNat
    split
    · split
      · rename_i e; subst e; simp
      · simp
    · simp only [List.mem_cons, ih]; exact or_left_comm

theorem insertSortedNat_sorted (l : List Nat) (x : Nat) (h : l.Pairwise (· < ·)) : (insertSortedNat l x).Pairwise (· < ·) := by
  induction l with
  | nil => simp [insertSortedNat]
  | cons z zs ih =>
    rw [List.pairwise_cons] at h
    unfold insertSortedNat
    split
    · rename_i h1
      split
      · exact List.pairwise_cons.mpr h
      · rename_i h2
        have hlt : x < z := Nat.lt_of_le_of_ne h1 h2
        refine List.pairwise_cons.mpr ⟨fun y hy => ?_, List.pairwise_cons.mpr h⟩
        rcases List.mem_cons.mp hy with e | e
        · exact e ▸ hlt
        · exact Nat.lt_trans hlt (h.1 y e)
    · rename_i h1
      refine List.pairwise_cons.mpr ⟨fun y hy => ?_, ih h.2⟩
      rcases (mem_insertSortedNat zs x y).mp hy with e | e
      · exact e ▸ Nat.lt_of_not_le h1
      · exact h.1 y e

theorem mem_sortNat_aux (l acc : List Nat) (y : Nat) : y ∈ l.foldl insertSortedNat acc ↔ y ∈ acc ∨ y ∈ l := by
  induction l generalizing acc with
  | nil => simp
  | cons x xs ih => rw [List.foldl_cons, ih, mem_insertSortedNat, List.mem_cons, or_comm (a := y = x), or_assoc]

theorem mem_sortNat (l : List Nat) (y : Nat) : y ∈ sortNat l ↔ y ∈ l := by
  unfold sortNat; rw [mem_sortNat_aux]; simp

theorem sortNat_sorted_aux (l acc : List Nat) (h : acc.Pairwise (· < ·)) : (l.foldl insertSortedNat acc).Pairwise (· < ·) := by
  induction l generalizing acc with
  | nil => exact h
  | cons x xs ih => exact ih _ (insertSortedNat_sorted acc x h)

theorem sortNat_sorted (l : List Nat) : (sortNat l).Pairwise (· < ·) := sortNat_sorted_aux l [] List.Pairwise.nil

theorem sortNat_nodup (l : List Nat) : (sortNat l).Nodup := (sortNat_sorted l).imp Nat.ne_of_lt

/-! ### the effect of a fold at one key -/

theorem foldl_notin {β γ : Type} (f : β → Nat → β) (P : β → γ) (a : Nat)
    (hframe : ∀ acc b, b ≠ a → P (f acc b) = P acc) (L : List Nat) (acc : β) (h : a ∉ L) : P (L.foldl f acc) = P acc := by
  induction L generalizing acc with
  | nil => rfl
  | cons b L ih =>
    rw [List.mem_cons, not_or] at h
    rw [List.foldl_cons, ih _ h.2, hframe acc b (Ne.symm h.1)]

/-- `P` is what can be seen at key `a`: no step at another key changes it (`hframe`), and the step at `a` produces the same from
    every accumulator that looks like the initial one (`hat`).  Then the whole fold looks like that one step. -/
theorem foldl_at {β γ : Type} (f : β → Nat → β) (P : β → γ) (a : Nat)
    (hframe : ∀ acc b, b ≠ a → P (f acc b) = P acc) (L : List Nat) (acc : β)
    (hat : ∀ acc', P acc' = P acc → P (f acc' a) = P (f acc a)) (hnd : L.Nodup) (h : a ∈ L) :
    P (L.foldl f acc) = P (f acc a) := by
  induction L generalizing acc with
  | nil => cases h
  | cons b L ih =>
    rw [List.nodup_cons] at hnd
    rw [List.foldl_cons]
    by_cases hb : b = a
    · subst hb; exact foldl_notin f P b hframe L _ hnd.1
    · have hP := hframe acc b hb
      rw [ih (f acc b) (fun acc' e => (hat acc' (e.trans hP)).trans (hat _ hP).symm) hnd.2
        ((List.mem_cons.mp h).resolve_left (Ne.symm hb)), hat _ hP]

theorem foldl_const {α β γ : Type} (f : β → α → β) (Q : β → γ) (h : ∀ acc x, Q (f acc x) = Q acc) (L : List α) (acc : β) :
    Q (L.foldl f acc) = Q acc := by
  induction L generalizing acc with
  | nil => rfl
  | cons x L ih => rw [List.foldl_cons, ih, h]

/-! ### association lists -/

theorem find?_filter {κ ν : Type} [DecidableEq κ] (m : AList κ ν) (p : κ → Bool) (k : κ) :
    AList.find? (m.filter (fun e => p e.1)) k = if p k then AList.find? m k else none := by
  induction m with
  | nil => simp [AList.find?]
  | cons e t ih =>
    obtain ⟨k', v⟩ := e
    by_cases h1 : k' = k
    · subst h1; cases hp : p k' <;> simp [List.filter, hp, AList.find?, ih]
    · cases hp : p k' <;> simp [List.filter, hp, AList.find?, h1, ih]

theorem find?_none_iff {κ ν : Type} [DecidableEq κ] (m : AList κ ν) (k : κ) : AList.find? m k = none ↔ k ∉ m.map (·.1) := by
  induction m with
  | nil => simp [AList.find?]
  | cons e t ih =>
    obtain ⟨k', v⟩ := e
    by_cases h1 : k' = k
    · subst h1; simp [AList.find?]
    · simp only [AList.find?, h1, if_false, ih, List.map_cons, List.mem_cons, not_or]
      exact ⟨fun h => ⟨Ne.symm h1, h⟩, fun h => h.2⟩

theorem mem_of_find {κ ν : Type} [DecidableEq κ] {m : AList κ ν} {k : κ} {v : ν} (h : AList.find? m k = some v) : (k, v) ∈ m := by
  induction m with
  | nil => cases h
  | cons e t ih =>
    obtain ⟨k', v'⟩ := e
    unfold AList.find? at h
    split at h
    · rename_i e; cases h; subst e; exact List.mem_cons_self ..
    · exact List.mem_cons_of_mem _ (ih h)

theorem mem_keys_of_find {κ ν : Type} [DecidableEq κ] {m : AList κ ν} {k : κ} {v : ν} (h : AList.find? m k = some v) :
    k ∈ m.map (·.1) :=
  List.mem_map.mpr ⟨(k, v), mem_of_find h, rfl⟩

/-! ### the store operations touch one account / one slot -/

theorem acct_setAcct_self (st : Store) (a : Nat) (x : StoreAcc) : (st.setAcct a x).acct a = some x :=
  AList.find?_set_self _ _ _
theorem acct_setAcct_ne (st : Store) (a b : Nat) (x : StoreAcc) (h : a ≠ b) : (st.setAcct a x).acct b = st.acct b :=
  AList.find?_set_ne _ _ _ _ h
theorem slot_setAcct (st : Store) (a b k : Nat) (x : StoreAcc) : (st.setAcct a x).slot b k = st.slot b k := rfl
theorem acct_setSlot (st : Store) (a k v b : Nat) : (st.setSlot a k v).acct b = st.acct b := rfl
theorem slot_setSlot_self (st : Store) (a k v : Nat) : (st.setSlot a k v).slot a k = v :=
  congrArg (·.getD 0) (AList.find?_set_self _ _ _)
theorem slot_setSlot_ne (st : Store) (a k v b k' : Nat) (h : (a, k) ≠ (b, k')) : (st.setSlot a k v).slot b k' = st.slot b k' :=
  congrArg (·.getD 0) (AList.find?_set_ne _ _ _ _ h)

theorem deleteAcct_absent (st : Store) (a : Nat) (h : st.acct a = none) : st.deleteAcct a = st := by
  unfold Store.deleteAcct; rw [h]

theorem acct_deleteAcct_self (st : Store) (a : Nat) : (st.deleteAcct a).acct a = none := by
  cases h : st.acct a with
  | none => rw [deleteAcct_absent st a h, h]
  | some x => unfold Store.deleteAcct; rw [h]; exact AList.find?_erase_self _ _
theorem acct_deleteAcct_ne (st : Store) (a b : Nat) (h : a ≠ b) : (st.deleteAcct a).acct b = st.acct b := by
  unfold Store.deleteAcct
  cases st.acct a with
  | none => rfl
  | some x => exact AList.find?_erase_ne _ _ _ h

/-- the slots that survive the storage wipe of account `a` (`Keeper.DeleteAccount`, and the reference's reset of a re-created
    account): those of the other accounts -/
theorem find?_wiped (m : AList (Nat × Nat) Nat) (a b k : Nat) :
    AList.find? (m.filter (fun e => e.1.1 ≠ a)) (b, k) = if b = a then none else AList.find? m (b, k) := by
  rw [find?_filter m (fun key => decide (key.1 ≠ a)) (b, k)]
  by_cases h : b = a <;> simp [h]

theorem slot_deleteAcct_ne (st : Store) (a b k : Nat) (h : a ≠ b) : (st.deleteAcct a).slot b k = st.slot b k := by
  unfold Store.deleteAcct
  cases st.acct a with
  | none => rfl
  | some x => exact congrArg (·.getD 0) ((find?_wiped st.storage a b k).trans (if_neg (Ne.symm h)))
theorem slot_deleteAcct_self (st : Store) (a k : Nat) (x : StoreAcc) (hx : st.acct a = some x) : (st.deleteAcct a).slot a k = 0 := by
  unfold Store.deleteAcct
  rw [hx]
  exact congrArg (·.getD 0) ((find?_wiped st.storage a a k).trans (if_pos rfl))

/-- over a store that holds no slots of accounts it does not hold, `Keeper.DeleteAccount` leaves no slot behind -/
theorem slot_deleteAcct_of_ok (st : Store) (a : Nat) (hok : st.acct a = none → ∀ k, st.slot a k = 0) (k : Nat) :
    (st.deleteAcct a).slot a k = 0 := by
  cases hx : st.acct a with
  | none => rw [deleteAcct_absent st a hx]; exact hok hx k
  | some x => exact slot_deleteAcct_self st a k x hx

/-! ### flushObj: the account record, then every dirty slot -/

def flushStep (a : Nat) (acc : Store × Obj) (k : Nat) : Store × Obj :=
  let v := (AList.find? acc.2.dirty k).getD 0
  if v = (AList.find? acc.2.origin k).getD 0 then acc
  else (acc.1.setSlot a k v, { acc.2 with origin := AList.set acc.2.origin k v })

theorem flushObj_eq (st : Store) (a : Nat) (o : Obj) :
    flushObj st a o = (sortNat (o.dirty.map (·.1))).foldl (flushStep a)
      (st.setAcct a { nonce := o.nonce, codeHash := o.codeHash, balance := Int.tdiv o.balance weiPerUnibi }, o) := rfl

theorem flushStep_dirty (a : Nat) (acc : Store × Obj) (k : Nat) : (flushStep a acc k).2.dirty = acc.2.dirty := by
  unfold flushStep; simp only; split <;> rfl
theorem flushStep_acct (a : Nat) (acc : Store × Obj) (k b : Nat) : (flushStep a acc k).1.acct b = acc.1.acct b := by
  unfold flushStep; simp only; split <;> rfl
theorem flushStep_slot_ne (a : Nat) (acc : Store × Obj) (k b k' : Nat) (h : (a, k) ≠ (b, k')) :
    (flushStep a acc k).1.slot b k' = acc.1.slot b k' := by
  unfold flushStep; simp only; split
  · rfl
  · exact slot_setSlot_ne _ _ _ _ _ _ h
theorem flushStep_origin_ne (a : Nat) (acc : Store × Obj) (k k' : Nat) (h : k ≠ k') :
    AList.find? (flushStep a acc k).2.origin k' = AList.find? acc.2.origin k' := by
  unfold flushStep; simp only; split
  · rfl
  · exact AList.find?_set_ne _ _ _ _ h

/-- the account record written by `flushObj` -/
theorem flushObj_acct_self (st : Store) (a : Nat) (o : Obj) :
    (flushObj st a o).1.acct a = some { nonce := o.nonce, codeHash := o.codeHash, balance := Int.tdiv o.balance weiPerUnibi } := by
  rw [flushObj_eq, foldl_const (flushStep a) (fun acc => acc.1.acct a) (fun acc k => flushStep_acct a acc k a)]
  exact acct_setAcct_self _ _ _

theorem flushObj_acct_ne (st : Store) (a b : Nat) (o : Obj) (h : a ≠ b) : (flushObj st a o).1.acct b = st.acct b := by
  rw [flushObj_eq, foldl_const (flushStep a) (fun acc => acc.1.acct b) (fun acc k => flushStep_acct a acc k b)]
  exact acct_setAcct_ne _ _ _ _ h

theorem flushObj_slot_ne (st : Store) (a b k : Nat) (o : Obj) (h : a ≠ b) : (flushObj st a o).1.slot b k = st.slot b k := by
  rw [flushObj_eq, foldl_const (flushStep a) (fun acc => acc.1.slot b k)
    (fun acc k' => flushStep_slot_ne a acc k' b k (fun e => h (congrArg Prod.fst e)))]
  rfl

/-- the flush changes nothing of the object but `OriginStorage` -/
theorem flushObj_obj (st : Store) (a : Nat) (o : Obj) : { (flushObj st a o).2 with origin := [] } = { o with origin := [] } := by
  rw [flushObj_eq]
  exact foldl_const (flushStep a) (fun acc => { acc.2 with origin := [] }) (fun acc k => by unfold flushStep; simp only; split <;> rfl) _ _

/-- … and what it leaves there does not depend on the store it writes into -/
theorem flushObj_snd_indep (st st' : Store) (a : Nat) (o : Obj) : (flushObj st a o).2 = (flushObj st' a o).2 := by
  rw [flushObj_eq, flushObj_eq]
  exact List.foldl_rel (r := fun (x y : Store × Obj) => x.2 = y.2) rfl
    (fun k _ x y e => by
      unfold flushStep
      simp only [e]
      split
      · exact e
      · rfl)

/-- slot `k` of the flushed account, in the store and in `OriginStorage`: a dirty value that differs from the cached origin (read
    with the code's default 0) is written to both, everything else is kept -/
theorem flushObj_at (st : Store) (a k : Nat) (o : Obj) :
    ((flushObj st a o).1.slot a k, AList.find? (flushObj st a o).2.origin k) =
      match AList.find? o.dirty k with
      | some v => if v = (AList.find? o.origin k).getD 0 then (st.slot a k, AList.find? o.origin k) else (v, some v)
      | none => (st.slot a k, AList.find? o.origin k) := by
  rw [flushObj_eq]
  let P : Store × Obj → List (Nat × Nat) × Option Nat × Nat := fun acc => (acc.2.dirty, AList.find? acc.2.origin k, acc.1.slot a k)
  have hframe : ∀ acc k', k' ≠ k → P (flushStep a acc k') = P acc := by
    intro acc k' hk
    simp only [P]
    rw [flushStep_dirty, flushStep_origin_ne a acc k' k hk, flushStep_slot_ne a acc k' a k (fun e => hk (congrArg Prod.snd e))]
  -- the step at `k` reads the dirty value, the cached origin and nothing else
  have hstep : ∀ acc : Store × Obj, P (flushStep a acc k) =
      if (AList.find? acc.2.dirty k).getD 0 = (AList.find? acc.2.origin k).getD 0 then P acc
      else (acc.2.dirty, some ((AList.find? acc.2.dirty k).getD 0), (AList.find? acc.2.dirty k).getD 0) := by
    intro acc
    unfold flushStep
    simp only [P]
    split
    · rfl
    · rw [AList.find?_set_self, slot_setSlot_self]
  cases hd : AList.find? o.dirty k with
  | none =>
    have h := foldl_notin (flushStep a) P k hframe _
      (st.setAcct a { nonce := o.nonce, codeHash := o.codeHash, balance := Int.tdiv o.balance weiPerUnibi }, o)
      (by rw [mem_sortNat]; exact (find?_none_iff _ _).mp hd)
    simp only [P, Prod.mk.injEq] at h
    rw [h.2.1, h.2.2]; rfl
  | some v =>
    have h := foldl_at (flushStep a) P k hframe _
      (st.setAcct a { nonce := o.nonce, codeHash := o.codeHash, balance := Int.tdiv o.balance weiPerUnibi }, o)
      (fun acc' e => by
        rw [hstep, hstep, e]
        simp only [P, Prod.mk.injEq] at e
        rw [e.1, e.2.1])
      (sortNat_nodup _) (by rw [mem_sortNat]; exact mem_keys_of_find hd)
    rw [hstep] at h
    simp only [P, hd, Option.getD_some] at h ⊢
    split at h <;> rename_i hv <;> simp only [Prod.mk.injEq] at h <;> rw [h.2.1, h.2.2]
    · rw [if_pos hv]; rfl
    · rw [if_neg hv]

/-- every slot of the flushed account: a dirty value that differs from the cached origin is written, everything else is kept -/
theorem flushObj_slot_self (st : Store) (a k : Nat) (o : Obj) :
    (flushObj st a o).1.slot a k =
      match AList.find? o.dirty k with
      | some v => if v = (AList.find? o.origin k).getD 0 then st.slot a k else v
      | none => st.slot a k := by
  rw [show (flushObj st a o).1.slot a k = _ from congrArg Prod.fst (flushObj_at st a k o)]
  cases AList.find? o.dirty k with
  | none => rfl
  | some v => simp only; split <;> rfl

/-! ### commitInto: one step per dirty address -/

def stepC (acc : S × Store) (a : Nat) : S × Store :=
  match getObj acc.1 a with
  | (s1, none) => ({ s1 with dirties := AList.set s1.dirties a 0 }, acc.2)
  | (s1, some o) =>
    if o.suicided then
      ({ s1 with objs := AList.erase s1.objs a, dirties := AList.set s1.dirties a 0 }, acc.2.deleteAcct a)
    else
      let (st', o') := flushObj acc.2 a o
      ({ (setObj s1 a o') with dirties := AList.set s1.dirties a 0 }, st')

theorem commitInto_eq (s : S) (st : Store) : commitInto s st = (sortNat (s.dirties.map (·.1))).foldl stepC (s, st) := rfl

/-! the three ways a step can go, by what the StateDB holds for the address -/

theorem stepC_live (acc : S × Store) (a : Nat) (o : Obj) (ho : AList.find? acc.1.objs a = some o) (hs : o.suicided = false) :
    stepC acc a =
      ({ (setObj acc.1 a (flushObj acc.2 a o).2) with dirties := AList.set acc.1.dirties a 0 }, (flushObj acc.2 a o).1) := by
  unfold stepC
  rw [getObj_cached' acc.1 a o ho]
  simp only [hs, Bool.false_eq_true, if_false]

theorem stepC_dead (acc : S × Store) (a : Nat) (o : Obj) (ho : AList.find? acc.1.objs a = some o) (hs : o.suicided = true) :
    stepC acc a =
      ({ acc.1 with objs := AList.erase acc.1.objs a, dirties := AList.set acc.1.dirties a 0 }, acc.2.deleteAcct a) := by
  unfold stepC
  rw [getObj_cached' acc.1 a o ho]
  simp only [hs, if_true]

theorem stepC_absent (acc : S × Store) (a : Nat) (ho : AList.find? acc.1.objs a = none) (hl : loadObj (curStore acc.1) a = none) :
    stepC acc a = ({ acc.1 with dirties := AList.set acc.1.dirties a 0 }, acc.2) := by
  unfold stepC getObj
  rw [ho]
  simp only [hl]

/-- what a step leaves of the StateDB itself: new objects, the address's dirty count reset -/
theorem stepC_fst (acc : S × Store) (a : Nat) :
    ∃ objs', (stepC acc a).1 = { acc.1 with objs := objs', dirties := AList.set acc.1.dirties a 0 } := by
  have hg : ∃ objs', (getObj acc.1 a).1 = { acc.1 with objs := objs' } := by
    unfold getObj
    split
    · exact ⟨_, rfl⟩
    · split <;> exact ⟨_, rfl⟩
  unfold stepC
  generalize getObj acc.1 a = r at hg
  obtain ⟨s1, _ | o⟩ := r <;> obtain ⟨objs', rfl⟩ := hg
  · exact ⟨_, rfl⟩
  · simp only
    split <;> exact ⟨_, rfl⟩

theorem stepC_curStore (acc : S × Store) (b : Nat) : curStore (stepC acc b).1 = curStore acc.1 := by
  obtain ⟨_, h⟩ := stepC_fst acc b
  rw [h]; rfl

theorem getObj_objs_ne (s : S) (a b : Nat) (h : b ≠ a) : AList.find? (getObj s b).1.objs a = AList.find? s.objs a := by
  unfold getObj
  cases AList.find? s.objs b with
  | some o => rfl
  | none =>
    simp only
    cases loadObj (curStore s) b with
    | none => rfl
    | some o => exact AList.find?_set_ne _ _ _ _ h

/-- what one step can see and change of account `a`: its cached object, its account record, its slots -/
def atAddr (a : Nat) (acc : S × Store) : Option Obj × Option StoreAcc × (Nat → Nat) :=
  (AList.find? acc.1.objs a, acc.2.acct a, fun k => acc.2.slot a k)

theorem atAddr_ext {a : Nat} {x y : S × Store} (h : atAddr a x = atAddr a y) :
    AList.find? x.1.objs a = AList.find? y.1.objs a ∧ x.2.acct a = y.2.acct a ∧ ∀ k, x.2.slot a k = y.2.slot a k :=
  ⟨congrArg (·.1) h, congrArg (·.2.1) h, fun k => congrFun (congrArg (·.2.2) h) k⟩

theorem stepC_frame (a : Nat) (acc : S × Store) (b : Nat) (h : b ≠ a) : atAddr a (stepC acc b) = atAddr a acc := by
  unfold stepC atAddr
  have hobj := getObj_objs_ne acc.1 a b h
  rcases hg : getObj acc.1 b with ⟨s1, _ | o⟩
  · rw [hg] at hobj; simp only; rw [← hobj]
  · rw [hg] at hobj
    simp only
    cases hs : o.suicided with
    | true =>
      simp only [if_true]
      rw [AList.find?_erase_ne _ _ _ h, hobj, acct_deleteAcct_ne _ _ _ h]
      congr 2
      funext k
      exact slot_deleteAcct_ne _ _ _ _ h
    | false =>
      simp only [Bool.false_eq_true, if_false, setObj]
      rw [AList.find?_set_ne _ _ _ _ h, hobj, flushObj_acct_ne _ _ _ _ h]
      congr 2
      funext k
      exact flushObj_slot_ne _ _ _ _ _ h

/-- the step at `a` over a cached object, seen at `a`, depends on the state only through what it shows at `a` -/
theorem stepC_cached_congr (a : Nat) (acc acc' : S × Store) (o : Obj) (ho : AList.find? acc.1.objs a = some o)
    (h : atAddr a acc' = atAddr a acc) : atAddr a (stepC acc' a) = atAddr a (stepC acc a) := by
  obtain ⟨h1, h2, h3⟩ := atAddr_ext h
  cases hs : o.suicided with
  | true =>
    rw [stepC_dead acc' a o (h1.trans ho) hs, stepC_dead acc a o ho hs]
    unfold atAddr
    simp only [AList.find?_erase_self, acct_deleteAcct_self]
    congr 2
    funext k
    cases hx : acc.2.acct a with
    | none => rw [deleteAcct_absent _ a hx, deleteAcct_absent _ a (h2.trans hx)]; exact h3 k
    | some x => rw [slot_deleteAcct_self _ a k x hx, slot_deleteAcct_self _ a k x (h2.trans hx)]
  | false =>
    rw [stepC_live acc' a o (h1.trans ho) hs, stepC_live acc a o ho hs]
    unfold atAddr
    simp only [find_setObj_same, flushObj_acct_self, flushObj_slot_self, h3, flushObj_snd_indep acc'.2 acc.2]

/-- **every dirty address is written exactly once**: seen at a dirty address `a` whose object is cached, the whole write-back is
    the one step at `a`, taken from the initial state -/
theorem commitInto_cached (s : S) (st : Store) (a : Nat) (o : Obj) (ho : AList.find? s.objs a = some o)
    (hd : a ∈ s.dirties.map (·.1)) : atAddr a (commitInto s st) = atAddr a (stepC (s, st) a) :=
  foldl_at stepC (atAddr a) a (stepC_frame a) _ (s, st) (fun acc' => stepC_cached_congr a (s, st) acc' o ho)
    (sortNat_nodup _) ((mem_sortNat _ _).mpr hd)

/-- an address that is not in the dirties map is not written -/
theorem commitInto_frame (s : S) (st : Store) (a : Nat) (hd : a ∉ s.dirties.map (·.1)) :
    (commitInto s st).2.acct a = st.acct a ∧ ∀ k, (commitInto s st).2.slot a k = st.slot a k :=
  (atAddr_ext (foldl_notin stepC (atAddr a) a (stepC_frame a) _ (s, st) (mt (mem_sortNat _ _).mp hd))).2

/-- a live dirty account: the store gets the object's nonce, code hash and balance (whole unibi) -/
theorem commitInto_acct (s : S) (st : Store) (a : Nat) (o : Obj) (ho : AList.find? s.objs a = some o)
    (hd : a ∈ s.dirties.map (·.1)) (hs : o.suicided = false) :
    (commitInto s st).2.acct a = some { nonce := o.nonce, codeHash := o.codeHash, balance := Int.tdiv o.balance weiPerUnibi } := by
  rw [(atAddr_ext (commitInto_cached s st a o ho hd)).2.1, stepC_live (s, st) a o ho hs, flushObj_acct_self]

/-- … and every slot: a dirty value that differs from the cached origin is written, the rest is kept -/
theorem commitInto_slot (s : S) (st : Store) (a k : Nat) (o : Obj) (ho : AList.find? s.objs a = some o)
    (hd : a ∈ s.dirties.map (·.1)) (hs : o.suicided = false) :
    (commitInto s st).2.slot a k =
      match AList.find? o.dirty k with
      | some v => if v = (AList.find? o.origin k).getD 0 then st.slot a k else v
      | none => st.slot a k := by
  rw [(atAddr_ext (commitInto_cached s st a o ho hd)).2.2 k, stepC_live (s, st) a o ho hs, flushObj_slot_self]

/-- a self-destructed dirty account is removed from the store, with its storage (`Keeper.DeleteAccount`) -/
theorem commitInto_suicided (s : S) (st : Store) (a : Nat) (o : Obj) (ho : AList.find? s.objs a = some o)
    (hd : a ∈ s.dirties.map (·.1)) (hs : o.suicided = true) :
    (commitInto s st).2.acct a = none ∧ ∀ k, (commitInto s st).2.slot a k = (st.deleteAcct a).slot a k := by
  obtain ⟨_, h2, h3⟩ := atAddr_ext (commitInto_cached s st a o ho hd)
  rw [stepC_dead (s, st) a o ho hs] at h2 h3
  exact ⟨h2.trans (acct_deleteAcct_self st a), h3⟩

/-- the state object such a write-back leaves: flushed, or gone -/
theorem commitInto_obj (s : S) (st : Store) (a : Nat) (o : Obj) (ho : AList.find? s.objs a = some o)
    (hd : a ∈ s.dirties.map (·.1)) :
    AList.find? (commitInto s st).1.objs a = if o.suicided then none else some (flushObj st a o).2 := by
  rw [(atAddr_ext (commitInto_cached s st a o ho hd)).1]
  cases hs : o.suicided with
  | true => rw [stepC_dead (s, st) a o ho hs]; exact AList.find?_erase_self _ _
  | false => rw [stepC_live (s, st) a o ho hs]; exact find_setObj_same _ _ _

/-! ### well-formed objects: OriginStorage caches the store, every dirty slot has a cached origin -/

def WFObj (st : Store) (a : Nat) (o : Obj) : Prop :=
  (∀ k w, AList.find? o.origin k = some w → st.slot a k = w) ∧
  (∀ k v, AList.find? o.dirty k = some v → ∃ w, AList.find? o.origin k = some w)

/-- no precompile cache context, every cached object well-formed -/
def WF (s : S) : Prop := s.cache = none ∧ ∀ a o, AList.find? s.objs a = some o → WFObj s.txStore a o

theorem WFObj_empty (st : Store) (a : Nat) (o : Obj) (h1 : o.origin = []) (h2 : o.dirty = []) : WFObj st a o := by
  constructor
  · intro k w h; rw [h1] at h; cases h
  · intro k v h; rw [h2] at h; cases h

theorem WFObj_congr (st : Store) (a : Nat) (o o' : Obj) (h : WFObj st a o) (h1 : o'.origin = o.origin) (h2 : o'.dirty = o.dirty) :
    WFObj st a o' := by
  unfold WFObj; rw [h1, h2]; exact h

theorem WF_fresh (st : Store) : WF { txStore := st } := ⟨rfl, fun a o h => by cases h⟩

theorem WF_setObj (s : S) (a : Nat) (o : Obj) (h : WF s) (ho : WFObj s.txStore a o) : WF (setObj s a o) := by
  refine ⟨h.1, fun b o' hb => ?_⟩
  by_cases e : a = b
  · subst e
    rw [find_setObj_same] at hb
    cases hb; exact ho
  · rw [find_setObj_other _ _ _ _ e] at hb
    exact h.2 b o' hb

theorem WF_append (s : S) (e : Entry) (h : WF s) : WF (append s e) := h

theorem WF_getObj (s : S) (a : Nat) (h : WF s) :
    WF (getObj s a).1 ∧ (getObj s a).1.txStore = s.txStore ∧ ∀ o, (getObj s a).2 = some o → WFObj s.txStore a o := by
  unfold getObj
  cases hf : AList.find? s.objs a with
  | some o => exact ⟨h, rfl, fun o' e => by cases e; exact h.2 a o hf⟩
  | none =>
    simp only
    cases hl : loadObj (curStore s) a with
    | none => exact ⟨h, rfl, fun o' e => by cases e⟩
    | some o =>
      -- a freshly loaded object has no cached slots
      have hw : WFObj s.txStore a o := by
        unfold loadObj at hl
        cases hx : (curStore s).acct a with
        | none => rw [hx] at hl; cases hl
        | some x => rw [hx] at hl; cases hl; exact WFObj_empty _ _ _ rfl rfl
      exact ⟨WF_setObj s a o h hw, rfl, fun o' e => by cases e; exact hw⟩

theorem WF_getOrNew (s : S) (a : Nat) (h : WF s) :
    WF (getOrNew s a).1 ∧ (getOrNew s a).1.txStore = s.txStore ∧ WFObj s.txStore a (getOrNew s a).2 := by
  unfold getOrNew
  obtain ⟨h1, h2, h3⟩ := WF_getObj s a h
  rcases hg : getObj s a with ⟨s1, _ | o⟩
  · rw [hg] at h1 h2
    exact ⟨WF_setObj _ a {} (WF_append s1 _ h1) (WFObj_empty _ _ _ rfl rfl), h2, WFObj_empty _ _ _ rfl rfl⟩
  · rw [hg] at h1 h2 h3
    exact ⟨h1, h2, h3 o rfl⟩

theorem WFObj_cacheOrigin (s : S) (a : Nat) (o : Obj) (k : Nat) (h : WFObj s.txStore a o) :
    WFObj s.txStore a (cacheOrigin s a o k) ∧ (cacheOrigin s a o k).dirty = o.dirty ∧
      ∃ w, AList.find? (cacheOrigin s a o k).origin k = some w := by
  unfold cacheOrigin
  cases hk : AList.find? o.origin k with
  | some w => exact ⟨h, rfl, w, hk⟩
  | none =>
    refine ⟨⟨fun k' w hw => ?_, fun k' v hv => ?_⟩, rfl, _, AList.find?_set_self _ _ _⟩
    · by_cases e : k = k'
      · subst e; rw [AList.find?_set_self] at hw; cases hw; rfl
      · rw [AList.find?_set_ne _ _ _ _ e] at hw; exact h.1 k' w hw
    · by_cases e : k = k'
      · subst e; exact ⟨_, AList.find?_set_self _ _ _⟩
      · rw [AList.find?_set_ne _ _ _ _ e]; exact h.2 k' v hv

theorem WFObj_touchState (s : S) (a : Nat) (o : Obj) (k : Nat) (h : WFObj s.txStore a o) :
    WFObj s.txStore a (touchState s a o k) ∧ (touchState s a o k).dirty = o.dirty ∧
      ∃ w, AList.find? (touchState s a o k).origin k = some w := by
  unfold touchState
  cases hd : AList.find? o.dirty k with
  | some v => exact ⟨h, rfl, h.2 k v hd⟩
  | none => exact WFObj_cacheOrigin s a o k h

theorem WFObj_setDirty (st : Store) (a : Nat) (o : Obj) (k v : Nat) (h : WFObj st a o) (hk : ∃ w, AList.find? o.origin k = some w) :
    WFObj st a { o with dirty := AList.set o.dirty k v } := by
  refine ⟨h.1, fun k' v' hv => ?_⟩
  by_cases e : k = k'
  · subst e; exact hk
  · rw [AList.find?_set_ne _ _ _ _ e] at hv; exact h.2 k' v' hv

/-- the second half of an account write: a journal entry, then the object put back -/
theorem WF_put (s : S) (a : Nat) (e : Entry) (o : Obj) (h : WF s) (ho : WFObj s.txStore a o) :
    WF (setObj (append s e) a o) ∧ (setObj (append s e) a o).txStore = s.txStore := ⟨WF_setObj _ a o h ho, rfl⟩

/-- every write call of the interpreter keeps the StateDB well-formed -/
theorem WF_applyW (s : S) (w : WOp) (h : WF s) : WF (applyW s w) ∧ (applyW s w).txStore = s.txStore := by
  cases w with
  | addBalance a d =>
    obtain ⟨h1, h2, h3⟩ := WF_getOrNew s a h
    rw [← h2] at h3 ⊢
    show WF (addBalance s a d) ∧ (addBalance s a d).txStore = _
    unfold addBalance
    generalize getOrNew s a = r at h1 h3
    obtain ⟨s1, o⟩ := r
    simp only
    split
    · exact ⟨h1, rfl⟩
    · exact WF_put _ a _ _ h1 (WFObj_congr _ a _ _ h3 rfl rfl)
  | setNonce a n =>
    obtain ⟨h1, h2, h3⟩ := WF_getOrNew s a h
    rw [← h2] at h3 ⊢
    exact WF_put _ a _ _ h1 (WFObj_congr _ a _ _ h3 rfl rfl)
  | setCode a c =>
    obtain ⟨h1, h2, h3⟩ := WF_getOrNew s a h
    rw [← h2] at h3 ⊢
    exact WF_put _ a _ _ h1 (WFObj_congr _ a _ _ h3 rfl rfl)
  | setState a k v =>
    obtain ⟨h1, h2, h3⟩ := WF_getOrNew s a h
    rw [← h2] at h3 ⊢
    show WF (setState s a k v) ∧ (setState s a k v).txStore = _
    unfold setState
    generalize getOrNew s a = r at h1 h3
    obtain ⟨s1, o⟩ := r
    obtain ⟨t1, _, t3⟩ := WFObj_touchState s1 a o k h3
    simp only
    split
    · exact ⟨WF_setObj _ a _ h1 t1, rfl⟩
    · exact WF_put _ a _ _ h1 (WFObj_setDirty _ a _ k v t1 t3)
  | suicide a =>
    obtain ⟨h1, h2, h3⟩ := WF_getObj s a h
    rw [← h2] at h3 ⊢
    show WF (suicide s a).1 ∧ (suicide s a).1.txStore = _
    unfold suicide
    generalize getObj s a = r at h1 h3
    obtain ⟨s1, _ | o⟩ := r
    · exact ⟨h1, rfl⟩
    · exact WF_put _ a _ _ h1 (WFObj_congr _ a o _ (h3 o rfl) rfl rfl)
  | addLog => exact ⟨h, rfl⟩
  | addRefund g => exact ⟨h, rfl⟩
  | subRefund g =>
    simp only [applyW, subRefund]
    split <;> exact ⟨h, rfl⟩
  | addAddr a =>
    simp only [applyW, addAddr]
    split <;> exact ⟨h, rfl⟩
  | addSlot a k =>
    simp only [applyW, addSlot, addAddr]
    split <;> split <;> exact ⟨h, rfl⟩

theorem WF_applyAll (ws : List WOp) (s : S) (h : WF s) : WF (applyAll s ws) ∧ (applyAll s ws).txStore = s.txStore := by
  induction ws generalizing s with
  | nil => exact ⟨h, rfl⟩
  | cons w ws ih =>
    obtain ⟨h1, h2⟩ := WF_applyW s w h
    obtain ⟨h3, h4⟩ := ih (applyW s w) h1
    exact ⟨h3, h4.trans h2⟩

/-! ### Commit -/

/-- `Commit` flushes into the current context's store, which then becomes the tx context's -/
theorem commit_store (s : S) : (commit s).txStore = (commitInto { s with txStore := curStore s } (curStore s)).2 := by
  unfold commit curStore
  cases s.cache <;> rfl

theorem commit_txStore (s : S) (hc : s.cache = none) : (commit s).txStore = (commitInto s s.txStore).2 := by
  cases s with
  | mk txStore cache objs journal dirties revisions nextRev refund logs alAddrs alSlots cacheCount => cases hc; rfl

/-- **What Commit persists.** Without a precompile cache context, for a live dirty account whose object is well-formed, the
    committed store holds exactly the StateDB's view: nonce, code hash, balance (whole unibi) and the current value of every slot. -/
theorem commit_persists_view (s : S) (h : WF s) (a : Nat) (o : Obj) (ho : AList.find? s.objs a = some o)
    (hd : a ∈ s.dirties.map (·.1)) (hs : o.suicided = false) :
    (commit s).txStore.acct a = some { nonce := o.nonce, codeHash := o.codeHash, balance := Int.tdiv o.balance weiPerUnibi } ∧
    ∀ k, (commit s).txStore.slot a k = objState s a o k := by
  rw [commit_txStore s h.1]
  refine ⟨commitInto_acct s _ a o ho hd hs, fun k => ?_⟩
  rw [commitInto_slot s _ a k o ho hd hs]
  obtain ⟨w1, w2⟩ := h.2 a o ho
  unfold objState committed
  cases hdk : AList.find? o.dirty k with
  | some v =>
    -- a dirty slot has a cached origin, which is the store's value: a skipped write leaves what the object shows
    obtain ⟨w, hw⟩ := w2 k v hdk
    simp only [hw, Option.getD_some]
    split
    · rename_i e; rw [w1 k w hw, e]
    · rfl
  | none =>
    simp only
    cases hok : AList.find? o.origin k with
    | some w => exact w1 k w hok
    | none => rfl

/-- an account that no journal entry dirtied is left alone by Commit -/
theorem commit_frame (s : S) (hc : s.cache = none) (a : Nat) (hd : a ∉ s.dirties.map (·.1)) :
    (commit s).txStore.acct a = s.txStore.acct a ∧ ∀ k, (commit s).txStore.slot a k = s.txStore.slot a k := by
  rw [commit_txStore s hc]; exact commitInto_frame s _ a hd

/-- a self-destructed dirty account is gone after Commit: no record, the slots `Keeper.DeleteAccount` leaves -/
theorem commit_suicided (s : S) (hc : s.cache = none) (a : Nat) (o : Obj) (ho : AList.find? s.objs a = some o)
    (hd : a ∈ s.dirties.map (·.1)) (hs : o.suicided = true) :
    (commit s).txStore.acct a = none ∧ ∀ k, (commit s).txStore.slot a k = (s.txStore.deleteAcct a).slot a k := by
  rw [commit_txStore s hc]; exact commitInto_suicided s _ a o ho hd hs

theorem commit_deletes_suicided (s : S) (hc : s.cache = none) (a : Nat) (o : Obj) (ho : AList.find? s.objs a = some o)
    (hd : a ∈ s.dirties.map (·.1)) (hs : o.suicided = true) :
    (commit s).txStore.acct a = none ∧ ∀ k x, s.txStore.acct a = some x → (commit s).txStore.slot a k = 0 := by
  obtain ⟨h1, h2⟩ := commit_suicided s hc a o ho hd hs
  exact ⟨h1, fun k x hx => (h2 k).trans (slot_deleteAcct_self _ a k x hx)⟩

end Nibiru.SDB
