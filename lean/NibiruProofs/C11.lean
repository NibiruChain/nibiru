/-
  C11 — Oracle votes are commit-reveal bound, period-exact and feeder-authorised.
  Theorems about NibiruModel.OracleVotes (x/oracle/keeper/msg_server.go, keeper.go ValidateFeeder).
-/
import NibiruModel.OracleVotes
namespace Nibiru.OracleVotes
open Nibiru

/-- **Feeder authorisation.** A (feeder, validator) pair passes iff the feeder is the validator's own account or the
    *currently* stored delegate, and the validator is bonded. (Proof: the table of bonded record × delegate record × self-feeding.) -/
theorem C11_feeder_auth (s : State) (feeder val : String) :
    validateFeeder s feeder val = none ↔
      (feeder = val ∨ AList.find? s.feeders val = some feeder) ∧ AList.find? s.bonded val = some true := by
  unfold validateFeeder
  rcases AList.find? s.bonded val with _ | _ | _ <;> cases AList.find? s.feeders val <;> by_cases h : feeder = val <;>
    simp [h] <;> split <;> simp

/-- after a validator re-delegates, the former delegate (if it is not the validator itself or the new delegate) is refused -/
theorem C11_former_feeder_rejected (s : State) (val old new : String) (hne : old ≠ new) (hov : old ≠ val)
    (hex : (AList.find? s.bonded val).isSome) :
    validateFeeder (delegate s val new).1 old val = some .noperm := by
  obtain ⟨b, hb⟩ := Option.isSome_iff_exists.mp hex
  simp [delegate, hb, validateFeeder, AList.find?_set_self, hov, hne.symm]

theorem periodOk_iff (s : State) (height : Nat) (pv : Prevote) :
    periodOk s height pv = true ↔ (height / s.votePeriod + 2 ^ 64 - pv.submitBlock / s.votePeriod) % 2 ^ 64 = 1 := by
  simp [periodOk]

theorem allWhitelisted_iff (s : State) (tuples : List (String × Int)) :
    allWhitelisted s tuples = true ↔ ∀ t ∈ tuples, t.1 ∈ s.whitelist := by
  simp [allWhitelisted]

/-- `vote` either returns the state as it was, with an error, or the six checks of the handler passed and the prevote is traded
    for the vote -/
theorem vote_cases (s : State) (height : Nat) (val feeder rates : String) (decs : List (String × Option Int))
    (expected : String) :
    (∃ e, vote s height val feeder rates decs expected = (s, some e)) ∨
    ∃ pv tuples, validateFeeder s feeder val = none ∧ AList.find? s.prevotes val = some pv ∧ periodOk s height pv = true ∧
      parseTuples decs rates = some tuples ∧ allWhitelisted s tuples = true ∧ pv.hash = expected ∧
      vote s height val feeder rates decs expected =
        ({ s with votes := AList.set (AList.erase s.votes val) val tuples, prevotes := AList.erase s.prevotes val }, none) := by
  unfold vote
  split
  · exact Or.inl ⟨_, rfl⟩
  split
  · exact Or.inl ⟨_, rfl⟩
  split
  · exact Or.inl ⟨_, rfl⟩
  split
  · exact Or.inl ⟨_, rfl⟩
  split
  · exact Or.inl ⟨_, rfl⟩
  split
  · exact Or.inl ⟨_, rfl⟩
  rename_i hf _ pv hp hper _ tuples ht hw hh
  exact Or.inr ⟨pv, tuples, hf, hp, by simpa using hper, ht, by simpa using hw, by simpa using hh, rfl⟩

/-- **Acceptance condition of a vote (reveal).** -/
theorem C11_vote_accepted_iff (s : State) (height : Nat) (val feeder rates : String) (decs : List (String × Option Int))
    (expected : String) :
    (vote s height val feeder rates decs expected).2 = none ↔
      validateFeeder s feeder val = none ∧
      ∃ pv, AList.find? s.prevotes val = some pv ∧
        (height / s.votePeriod + 2 ^ 64 - pv.submitBlock / s.votePeriod) % 2 ^ 64 = 1 ∧
        ∃ tuples, parseTuples decs rates = some tuples ∧ (∀ t ∈ tuples, t.1 ∈ s.whitelist) ∧ pv.hash = expected := by
  constructor
  · intro h
    rcases vote_cases s height val feeder rates decs expected with ⟨e, he⟩ | ⟨pv, tuples, hf, hp, hper, ht, hw, hh, _⟩
    · rw [he] at h; cases h
    · exact ⟨hf, pv, hp, (periodOk_iff ..).mp hper, tuples, ht, (allWhitelisted_iff ..).mp hw, hh⟩
  · rintro ⟨hf, pv, hp, hper, tuples, ht, hw, hh⟩
    simp [vote, hf, hp, (periodOk_iff ..).mpr hper, ht, (allWhitelisted_iff ..).mpr hw, hh]

/-- **The prevote is consumed.** After an accepted vote the validator has no prevote any more, so a second reveal (the same
    or any other) is refused until a new prevote is recorded. -/
theorem C11_prevote_consumed (s : State) (height : Nat) (val feeder rates : String) (decs : List (String × Option Int))
    (expected : String) (hacc : (vote s height val feeder rates decs expected).2 = none) :
    AList.find? (vote s height val feeder rates decs expected).1.prevotes val = none ∧
    ∀ h' feeder' rates' decs' exp',
      (vote (vote s height val feeder rates decs expected).1 h' val feeder' rates' decs' exp').2 ≠ none := by
  rcases vote_cases s height val feeder rates decs expected with ⟨e, he⟩ | ⟨pv, tuples, _, _, _, _, _, _, he⟩
  · rw [he] at hacc; cases hacc
  rw [he]
  have hcons : AList.find? (AList.erase s.prevotes val) val = none := AList.find?_erase_self _ _
  refine ⟨hcons, fun h' feeder' rates' decs' exp' hacc2 => ?_⟩
  obtain ⟨_, pv', hp', _⟩ := (C11_vote_accepted_iff ..).mp hacc2
  exact nomatch hcons ▸ hp'

/-- **Period-exact.** (block heights are positive `int64`, i.e. below 2^63) An accepted reveal at height `b` of a prevote
    recorded at height `a` lies in the vote period immediately after the prevote's: ⌊b/P⌋ = ⌊a/P⌋ + 1 — with the VotePeriod
    in force at reveal time. -/
theorem C11_period_exact (P a b : Nat) (ha : a < 2 ^ 63) (hb : b < 2 ^ 63)
    (h : (b / P + 2 ^ 64 - a / P) % 2 ^ 64 = 1) : b / P = a / P + 1 := by
  have h1 : a / P < 2 ^ 63 := Nat.lt_of_le_of_lt (Nat.div_le_self a P) ha
  have h2 : b / P < 2 ^ 63 := Nat.lt_of_le_of_lt (Nat.div_le_self b P) hb
  generalize a / P = x at *
  generalize b / P = y at *
  simp only [Nat.reducePow] at *
  omega

/-- **Rejected messages change nothing** (handler level). -/
theorem C11_rejected_no_change (s : State) (height : Nat) (val feeder rates : String) (decs : List (String × Option Int))
    (expected : String) (e : Err) (h : (vote s height val feeder rates decs expected).2 = some e) :
    (vote s height val feeder rates decs expected).1 = s := by
  rcases vote_cases s height val feeder rates decs expected with ⟨e', he⟩ | ⟨_, _, _, _, _, _, _, _, he⟩
  · rw [he]
  · rw [he] at h; cases h

theorem C11_prevote_rejected_no_change (s : State) (height : Nat) (val feeder : String) (ok : Bool) (hash : String) (e : Err)
    (h : (prevote s height val feeder ok hash).2 = some e) : (prevote s height val feeder ok hash).1 = s := by
  revert h
  unfold prevote
  split
  · exact fun _ => rfl
  split
  · exact fun _ => rfl
  · exact fun h => nomatch h

/-- **Textual binding.** The stored commitment must equal `H(salt, rates, validator)` of the revealed strings. With an injective
    (collision-free) `H`, a reveal whose rate string or salt differs textually from the committed one is refused — even when both
    strings parse to the same tuples. -/
theorem C11_textual_binding (H : String → String → String → String)
    (hinj : ∀ s₁ r₁ v₁ s₂ r₂ v₂, H s₁ r₁ v₁ = H s₂ r₂ v₂ → s₁ = s₂ ∧ r₁ = r₂ ∧ v₁ = v₂)
    (s : State) (height : Nat) (val feeder : String) (decs : List (String × Option Int))
    (salt₀ rates₀ salt rates : String) (pv : Prevote)
    (hp : AList.find? s.prevotes val = some pv) (hc : pv.hash = H salt₀ rates₀ val)
    (hacc : (vote s height val feeder rates decs (H salt rates val)).2 = none) :
    salt = salt₀ ∧ rates = rates₀ := by
  obtain ⟨_, pv', hp', _, _, _, _, hh⟩ := (C11_vote_accepted_iff ..).mp hacc
  cases hp.symm.trans hp'
  obtain ⟨h1, h2, _⟩ := hinj _ _ _ _ _ _ (hc.symm.trans hh)
  exact ⟨h1.symm, h2.symm⟩

/- Non-vacuity: the hypotheses of the theorems above are met by the implementation itself — the correspondence run (T2)
   executes hundreds of accepted commit–reveal flows, replays, wrong-period and textual-variant reveals on the real keeper and the
   model agrees on each (evidence: generator_distribution `vote:ok`, `vote:hash`, `vote:period`, `vote:noprevote`). A closed-term
   `decide` example is not possible here because `String.splitOn` is not kernel-reducible. -/

end Nibiru.OracleVotes
