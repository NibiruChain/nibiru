/-
  SurfC17 — GENERATED by bin/pin-surface (a developer tool) on the tree the models were written against; committed.
  The fingerprints of the functions property C17's model was written from (lib/surface.json) as they were then; the
  extractor recomputes them from /repo on every run (Generated.surface_C17).  A difference means that a modelled function
  changed structurally: the hand-written model is then no longer known to describe it, the obligation breaks and the check
  searches for a failing input (DESIGN §3, T1-S).
-/
import Generated.Facts

namespace Nibiru.Surface

def expected_C17 : List (String × String) := [
  ("app/ante.go:NewAnteHandlerNonEVM", "22d91c12e69bc42e"),
  ("app/ante/authz_guard.go:AnteDecoratorAuthzGuard.AnteHandle", "8f5591d5d80b8017"),
  ("app/ante/commission.go:AnteDecoratorStakingCommission.AnteHandle", "b0b5c6b8a052ac6a"),
  ("app/ante/commission.go:MAX_COMMISSION", "9562d4c3fcfe7448"),
  ("app/ante/commission.go:checkMaxCommission", "4288fa1dffe63d07"),
  ("app/wasmext/wasm.go:SDKMessageHandler.DispatchMsg", "2da0cf3b82cdd7d3"),
  ("app/wasmext/wasm.go:SDKMessageHandler.handleSdkMessage", "7e3fddbfc8f5760a")]

/-- 7 declarations -/
theorem fact_C17_surface_fingerprints : Generated.surface_C17 = expected_C17 := rfl

end Nibiru.Surface
