/-
  SurfC14 — GENERATED by bin/pin-surface (a developer tool) on the tree the models were written against; committed.
  The fingerprints of the functions property C14's model was written from (lib/surface.json) as they were then; the
  extractor recomputes them from /repo on every run (Generated.surface_C14).  A difference means that a modelled function
  changed structurally: the hand-written model is then no longer known to describe it, the obligation breaks and the check
  searches for a failing input (DESIGN §3, T1-S).
-/
import Generated.Facts

namespace Nibiru.Surface

def expected_C14 : List (String × String) := [
  ("app/keepers.go:NibiruApp.initNonDepinjectKeepers", "cbc02c1d2742bd33"),
  ("x/epochs/abci.go:BeginBlocker", "032d1bcf7b23c5fd"),
  ("x/epochs/abci.go:shouldEpochStart", "75cb001e8cfb01d1"),
  ("x/epochs/keeper/epoch.go:Keeper.AddEpochInfo", "f2f8ae8601fbbd28"),
  ("x/epochs/keeper/epoch.go:Keeper.AllEpochInfos", "19a725e05928832c"),
  ("x/epochs/keeper/epoch.go:Keeper.DeleteEpochInfo", "0f8af865a7b9e68d"),
  ("x/epochs/keeper/epoch.go:Keeper.EpochExists", "9594b3129e9c3e9f"),
  ("x/epochs/keeper/epoch.go:Keeper.GetEpochInfo", "24c26bb26ab1eb99"),
  ("x/epochs/keeper/epoch.go:Keeper.IterateEpochInfo", "1e0feadfb6480318"),
  ("x/epochs/keeper/hooks.go:Keeper.AfterEpochEnd", "eaabe1fe35ac5543"),
  ("x/epochs/keeper/hooks.go:Keeper.BeforeEpochStart", "fa1eb1e35d8fd710"),
  ("x/epochs/types/epochinfo.go:EpochInfo.Validate", "926548647ac5bf38"),
  ("x/epochs/types/hooks.go:MultiEpochHooks.AfterEpochEnd", "209fc4d7fd0324f7"),
  ("x/epochs/types/hooks.go:MultiEpochHooks.BeforeEpochStart", "92806fd1e9f78460"),
  ("x/epochs/types/hooks.go:NewMultiEpochHooks", "d573dbd685363018")]

/-- 15 declarations -/
theorem fact_C14_surface_fingerprints : Generated.surface_C14 = expected_C14 := rfl

end Nibiru.Surface
