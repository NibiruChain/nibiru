/-
  C12 — Oracle penalties and rewards follow actual voting behaviour.
  Theorems about NibiruModel.Oracle: Tally classification / miss counting, SlashAndResetMissCounters, rewardWinners,
  GatherRewardsForVotePeriod, AllocateRewards.
-/
import NibiruProofs.OracleMedian
import Generated.Facts
import NibiruProofs.DecLemmas
namespace Nibiru.Oracle
open Nibiru.Dec

/-! ### misses -/

def getMiss (perfs : List Perf) (a : String) : Int :=
  match findPerf perfs a with
  | some p => p.miss
  | none => 0

/-- a vote is classified as a miss exactly when it is a positive rate outside the reward band -/
theorem C12_classify_miss_iff (median spread : Int) (v : BVote) :
    classify median spread v = .miss ↔ (0 < v.rate ∧ ¬ (median - spread ≤ v.rate ∧ v.rate ≤ median + spread)) := by
  unfold classify
  by_cases h1 : median - spread ≤ v.rate <;> by_cases h2 : v.rate ≤ median + spread <;> by_cases h3 : 0 < v.rate <;>
    simp [h1, h2, h3] <;> omega

theorem findPerf_updPerf (perfs : List Perf) (a b : String) (f : Perf → Perf) (hf : ∀ p, (f p).addr = p.addr) :
    findPerf (updPerf perfs b f) a = (findPerf perfs a).map (fun p => if p.addr = b then f p else p) := by
  unfold findPerf updPerf
  rw [List.find?_map]
  congr; funext x
  simp only [Function.comp]
  split <;> simp [hf]

/-- an update for another validator, or one that leaves `miss` alone, does not change the miss count of `a` -/
theorem getMiss_updPerf (perfs : List Perf) (a b : String) (f : Perf → Perf) (hf : ∀ p, (f p).addr = p.addr)
    (hm : a = b → ∀ p, (f p).miss = p.miss) : getMiss (updPerf perfs b f) a = getMiss perfs a := by
  unfold getMiss
  rw [findPerf_updPerf _ _ _ _ hf]
  cases hfp : findPerf perfs a with
  | none => rfl
  | some p =>
    have hpa : p.addr = a := by simpa using List.find?_some hfp
    simp only [Option.map_some]
    split
    · rename_i hb; exact hm (hpa ▸ hb) p
    · rfl

/-- one round of the loop of `Tally` changes the miss count of `a` only at a vote of `a` classified as a miss -/
theorem tallyLoop_cons_miss (median spread : Int) (v : BVote) (vs : List BVote) (missed : List String) (perfs : List Perf)
    (a : String) :
    (v.voter = a ∧ classify median spread v = .miss) ∨
    ∃ missed' perfs', tallyLoop median spread (v :: vs) missed perfs = tallyLoop median spread vs missed' perfs' ∧
      getMiss perfs' a = getMiss perfs a := by
  by_cases h : v.voter = a ∧ classify median spread v = .miss
  · exact Or.inl h
  refine Or.inr ?_
  simp only [tallyLoop]
  cases hc : classify median spread v
  · exact ⟨_, _, rfl, getMiss_updPerf _ _ _ _ (fun _ => rfl) (fun _ _ => rfl)⟩
  · simp only
    split
    · exact ⟨_, _, rfl, rfl⟩
    · exact ⟨_, _, rfl, getMiss_updPerf _ _ _ _ (fun _ => rfl) (fun e => absurd ⟨e.symm, hc⟩ h)⟩
  · exact ⟨_, _, rfl, getMiss_updPerf _ _ _ _ (fun _ => rfl) (fun _ _ => rfl)⟩

/-- **Misses come only from out-of-band positive votes.** Over one ballot, a validator's miss count changes only if that
    validator has, in this ballot, a positive rate outside the band; abstaining or not voting never does. -/
theorem tallyLoop_miss (median spread : Int) (vs : List BVote) (missed : List String) (perfs : List Perf) (a : String)
    (h : getMiss (tallyLoop median spread vs missed perfs) a ≠ getMiss perfs a) :
    ∃ v ∈ vs, v.voter = a ∧ classify median spread v = .miss := by
  induction vs generalizing missed perfs with
  | nil => exact absurd rfl h
  | cons v vs ih =>
    rcases tallyLoop_cons_miss median spread v vs missed perfs a with hv | ⟨missed', perfs', he, hg⟩
    · exact ⟨v, List.mem_cons_self, hv⟩
    · obtain ⟨w, hw, h'⟩ := ih missed' perfs' (he ▸ hg ▸ h)
      exact ⟨w, List.mem_cons_of_mem _ hw, h'⟩

/-- **C12 misses, over the whole period end.** If a validator's miss count after tallying all surviving (whitelisted, quorum)
    ballots differs from before, then for some such pair the validator submitted a positive rate outside that pair's reward
    band (median ± max(band/2·median, σ)). Votes for pairs without quorum, abstentions and omissions never count. -/
theorem C12_miss_only_out_of_band_positive_vote_on_quorum_pair (band : Int) (height : Nat)
    (bs : List (String × List BVote)) (perfs : List Perf) (rates : List Rate) (a : String) :
    getMiss (tallyAll band height bs perfs rates).1 a ≠ getMiss perfs a →
    ∃ pb ∈ bs, ∃ v ∈ pb.2, v.voter = a ∧ 0 < v.rate ∧
      ¬ (weightedMedian pb.2 - rewardSpread (sortBallot pb.2) band (weightedMedian pb.2) ≤ v.rate ∧
         v.rate ≤ weightedMedian pb.2 + rewardSpread (sortBallot pb.2) band (weightedMedian pb.2)) := by
  induction bs generalizing perfs rates with
  | nil => exact fun h => absurd rfl h
  | cons x xs ih =>
    intro h
    rw [tallyAll] at h
    by_cases h1 : getMiss (tally x.2 band perfs).2 a = getMiss perfs a
    · obtain ⟨pb, hpb, rest⟩ := ih _ _ (h1 ▸ h)
      exact ⟨pb, List.mem_cons_of_mem _ hpb, rest⟩
    · obtain ⟨v, hv, hva, hvc⟩ := tallyLoop_miss _ _ _ _ _ _ h1
      exact ⟨x, List.mem_cons_self, v, (sortBallot_perm x.2).subset hv, hva, (C12_classify_miss_iff _ _ v).mp hvc⟩

theorem find?_addMiss_ne (mc : List (String × Nat)) (a b : String) (n : Nat) (h : b ≠ a) :
    (addMiss mc b n).find? (fun x => x.1 = a) = mc.find? (fun x => x.1 = a) := by
  induction mc with
  | nil => simp [addMiss, h]
  | cons y ys ih =>
    unfold addMiss
    split
    · simp [h]
    split
    · rename_i e; simp [← e, h]
    · simp [List.find?_cons, ih]

/-- the persistent counter of a validator without a miss in this period is left as it was -/
theorem C12_counter_unchanged_without_miss (mc : List (String × Nat)) (perfs : List Perf) (a : String)
    (h : ∀ p ∈ perfs, p.addr = a → p.miss ≤ 0) :
    (incMiss mc perfs).find? (fun x => x.1 = a) = mc.find? (fun x => x.1 = a) := by
  unfold incMiss
  induction perfs generalizing mc with
  | nil => rfl
  | cons p ps ih =>
    rw [List.foldl_cons, ih _ (fun q hq => h q (List.mem_cons_of_mem _ hq))]
    split
    · exact find?_addMiss_ne _ _ _ _ (fun e => by have := h p List.mem_cons_self e; omega)
    · rfl

/-! ### slashing -/

/-- **Slash rule.** Exactly the validators with a miss counter whose valid-vote rate `(ppw − misses)/ppw` is below
    MinValidPerWindow and that are bonded and not jailed are slashed and jailed; every counter is deleted (the model returns
    the empty counter store). -/
theorem C12_slash_exactly (sp : SlashParams) (mc : List (String × Nat)) (vals : List Validator) (a : String) :
    a ∈ slashSet sp mc vals ↔
      ∃ n, (a, n) ∈ mc ∧ validVoteRate (periodsPerWindow sp) n < sp.minValid ∧
        ∃ v, vals.find? (·.addr = a) = some v ∧ v.bonded = true ∧ v.jailed = false := by
  unfold slashSet
  simp only [List.mem_map, List.mem_filter, Bool.and_eq_true, decide_eq_true_eq]
  constructor
  · rintro ⟨⟨k, n⟩, ⟨hmem, hrate, hval⟩, rfl⟩
    refine ⟨n, hmem, hrate, ?_⟩
    split at hval
    · rename_i v hv; exact ⟨v, hv, by simpa using hval⟩
    · cases hval
  · rintro ⟨n, hmem, hrate, v, hv, hb, hj⟩
    exact ⟨(a, n), ⟨hmem, hrate, by simp [hv, hb, hj]⟩, rfl⟩

/-! ### rewards -/

theorem portion_eq (pot w total : Int) (hp : 0 ≤ pot) (hw : 0 ≤ w) (ht : 0 < total) :
    portion pot w total = (pot * ((w * prec) / total)) / prec := by
  unfold portion
  rw [mul_ofInt]
  unfold quoInt ofInt truncateInt
  have h1 : (0 : Int) ≤ w * prec := Int.mul_nonneg hw (Int.le_of_lt prec_pos)
  rw [Int.tdiv_eq_ediv_of_nonneg h1, Int.tdiv_eq_ediv_of_nonneg (Int.mul_nonneg hp (Int.ediv_nonneg h1 (by omega)))]

/-- **Pro rata.** A larger reward weight never gets a smaller portion. -/
theorem C12_reward_pro_rata (pot w₁ w₂ total : Int) (hp : 0 ≤ pot) (h1 : 0 ≤ w₁) (h12 : w₁ ≤ w₂) (ht : 0 < total) :
    portion pot w₁ total ≤ portion pot w₂ total := by
  rw [portion_eq _ _ _ hp h1 ht, portion_eq _ _ _ hp (by omega) ht]
  apply Int.ediv_le_ediv prec_pos
  apply Int.mul_le_mul_of_nonneg_left _ hp
  apply Int.ediv_le_ediv ht
  exact Int.mul_le_mul_of_nonneg_right h12 (Int.le_of_lt prec_pos)

def sumW (ws : List Int) : Int := sumInts ws

/-- the truncating split: both divisions round down, so a share is at most the exact `pot · w / total` -/
theorem portion_mul_le (pot w total : Int) (hp : 0 ≤ pot) (hw : 0 ≤ w) (ht : 0 < total) :
    portion pot w total * total ≤ pot * w := by
  rw [portion_eq _ _ _ hp hw ht]
  apply Int.le_of_mul_le_mul_right _ prec_pos
  calc pot * (w * prec / total) / prec * total * prec
      = pot * (w * prec / total) / prec * prec * total := Int.mul_right_comm ..
    _ ≤ pot * (w * prec / total) * total :=
        Int.mul_le_mul_of_nonneg_right (Int.ediv_mul_le _ (Int.ne_of_gt prec_pos)) (Int.le_of_lt ht)
    _ = pot * (w * prec / total * total) := Int.mul_assoc ..
    _ ≤ pot * (w * prec) := Int.mul_le_mul_of_nonneg_left (Int.ediv_mul_le _ (Int.ne_of_gt ht)) hp
    _ = pot * w * prec := (Int.mul_assoc ..).symm

theorem portions_mul_le (pot total : Int) (ws : List Int) (hp : 0 ≤ pot) (hw : ∀ w ∈ ws, 0 ≤ w) (ht : 0 < total) :
    sumInts (ws.map (fun w => portion pot w total)) * total ≤ pot * sumInts ws := by
  induction ws with
  | nil => simp [sumInts]
  | cons w ws ih =>
    have := portion_mul_le pot w total hp (hw w List.mem_cons_self) ht
    have := ih (fun x hx => hw x (List.mem_cons_of_mem _ hx))
    simp only [List.map_cons, sumInts]
    rw [Int.add_mul, Int.mul_add]; omega

/-- **The sum paid never exceeds the pot.** -/
theorem C12_sum_paid_le_pot (pot : Int) (ws : List Int) (hp : 0 ≤ pot) (hw : ∀ w ∈ ws, 0 ≤ w) (ht : 0 < sumInts ws) :
    sumInts (ws.map (fun w => portion pot w (sumInts ws))) ≤ pot :=
  Int.le_of_mul_le_mul_right (portions_mul_le pot _ ws hp hw ht) ht

/-! ### solvency of the oracle module account -/

/-- what remains owed to future periods -/
def owed (rw : List Reward) : Int := sumInts (rw.map (fun r => r.amount * r.periods))

def Solvent (s : State) : Prop := owed s.rewards ≤ s.balance ∧ ∀ r ∈ s.rewards, 0 ≤ r.amount ∧ 0 < r.periods

theorem owed_cons (r : Reward) (rs : List Reward) : owed (r :: rs) = r.amount * r.periods + owed rs := rfl

theorem owed_append (a b : List Reward) : owed (a ++ b) = owed a + owed b := by
  unfold owed; rw [List.map_append, sumInts_append]

/-- `AllocateRewards` keeps the account solvent: it receives `total` and owes `⌊total/periods⌋ · periods ≤ total` more -/
theorem C12_allocate_keeps_solvent (s : State) (id : Nat) (total : Int) (periods : Nat) (h : Solvent s)
    (ht : 0 ≤ total) (hp : 0 < periods) : Solvent (allocateRewards s id total periods) := by
  obtain ⟨h1, h2⟩ := h
  have hq : Int.tdiv total periods = total / (periods : Int) := Int.tdiv_eq_ediv_of_nonneg ht
  have hle : total / (periods : Int) * (periods : Int) ≤ total := Int.ediv_mul_le _ (by omega)
  refine ⟨?_, fun r hr => ?_⟩
  · show owed (s.rewards ++ [_]) ≤ s.balance + total
    rw [owed_append, owed_cons, hq]
    show owed s.rewards + (total / periods * periods + 0) ≤ _
    omega
  · rcases List.mem_append.mp hr with e | e
    · exact h2 r e
    · rw [List.mem_singleton.mp e, hq]
      exact ⟨Int.ediv_nonneg ht (by omega), hp⟩

/-- an allocation that has run out owes nothing -/
theorem owed_filter (l : List Reward) : owed (l.filter (fun r => r.periods ≠ 0)) = owed l := by
  induction l with
  | nil => rfl
  | cons r rs ih =>
    rw [List.filter_cons]
    split
    · rw [owed_cons, owed_cons, ih]
    · rename_i h
      have : r.periods = 0 := by simpa using h
      rw [owed_cons, ih, this]; simp

theorem gather_owed (rw : List Reward) (h : ∀ r ∈ rw, 0 ≤ r.amount ∧ 0 < r.periods) :
    owed (gather rw).2 + (gather rw).1 = owed rw ∧ 0 ≤ (gather rw).1 ∧
    ∀ r ∈ (gather rw).2, 0 ≤ r.amount ∧ 0 < r.periods := by
  refine ⟨?_, sumInts_nonneg _ fun x hx => ?_, fun r hr => ?_⟩
  · simp only [gather]
    rw [owed_filter]
    induction rw with
    | nil => rfl
    | cons r rs ih =>
      have := ih (fun x hx => h x (List.mem_cons_of_mem _ hx))
      have := (h r List.mem_cons_self).2
      have e : ((r.periods - 1 : Nat) : Int) = (r.periods : Int) - 1 := by omega
      simp only [List.map_cons, owed_cons, sumInts, e, Int.mul_sub, Int.mul_one] at this ⊢
      omega
  · obtain ⟨r, hr, rfl⟩ := List.mem_map.mp hx
    exact (h r hr).1
  · obtain ⟨hm, hne⟩ := List.mem_filter.mp hr
    obtain ⟨r', hr', rfl⟩ := List.mem_map.mp hm
    exact ⟨(h r' hr').1, Nat.pos_of_ne_zero (by simpa using hne)⟩

/-- **A period's pot leaves the schedule exactly when it is paid.** In a vote period in which no validator earned reward weight
    nothing is paid and the reward schedule — and the module balance — stay as they were: the period's pot is still owed (seed
    C12-15 had the schedule advance regardless). -/
theorem C12_period_without_winners_consumes_nothing (perfs : List Perf) (rw : List Reward) (bal : Int)
    (h : sumInts (perfs.map (·.weight)) = 0) : rewardWinners perfs rw bal = ([], rw, bal) := by
  unfold rewardWinners
  simp [h]

/-- … and with winners the schedule is the gathered one: every allocation has lost exactly the period that was paid -/
theorem C12_period_with_winners_advances_the_schedule (perfs : List Perf) (rw : List Reward) (bal : Int)
    (h : sumInts (perfs.map (·.weight)) ≠ 0) : (rewardWinners perfs rw bal).2.1 = (gather rw).2 := by
  unfold rewardWinners
  simp [h]

/-- **The oracle module account always covers what remains owed**: paying a period out of a solvent account leaves it solvent
    (the pot leaves the allocations; at most the pot leaves the account — `C12_sum_paid_le_pot`). -/
theorem C12_reward_keeps_solvent (s : State) (perfs : List Perf) (h : Solvent s) (hw : ∀ p ∈ perfs, 0 ≤ p.weight) :
    let r := rewardWinners perfs s.rewards s.balance
    owed r.2.1 ≤ r.2.2 ∧ (∀ x ∈ r.2.1, 0 ≤ x.amount ∧ 0 < x.periods) := by
  obtain ⟨h1, h2⟩ := h
  have hw' : ∀ w ∈ perfs.map (·.weight), 0 ≤ w := fun w hwm => by
    obtain ⟨p, hp, rfl⟩ := List.mem_map.mp hwm; exact hw p hp
  have := sumInts_nonneg _ hw'
  unfold rewardWinners
  by_cases ht : sumInts (perfs.map (·.weight)) = 0
  · simp only [ht, if_true]; exact ⟨h1, h2⟩
  · simp only [ht, if_false]
    obtain ⟨g1, g2, g3⟩ := gather_owed s.rewards h2
    have hsum := C12_sum_paid_le_pot (gather s.rewards).1 (perfs.map (·.weight)) g2 hw' (by omega)
    simp only [List.map_map, Function.comp_def] at hsum ⊢
    refine ⟨?_, g3⟩
    split <;> omega

/-! ### T1 (regenerated from x/oracle/abci.go and x/oracle/types/core.go on every run) -/

/-- slashing and the miss-counter reset run exactly at the last block of a slash window: the end blocker calls `UpdateExchangeRates` under `IsPeriodLastBlock(VotePeriod)` and
    `SlashAndResetMissCounters` under `IsPeriodLastBlock(SlashWindow)`, nothing else, and a period's last block is the one whose
    height + 1 is a multiple of the period (the correspondence run calls the two keeper functions directly) -/
theorem fact_C12_end_blocker_gates :
    Generated.oracleEndBlockerCalls =
      [("types.IsPeriodLastBlock(ctx, params.VotePeriod)", "UpdateExchangeRates"),
       ("types.IsPeriodLastBlock(ctx, params.SlashWindow)", "SlashAndResetMissCounters")] ∧
    Generated.oraclePeriodLastBlockExpr = "((uint64)(ctx.BlockHeight())+1)%blocksPerPeriod == 0" := ⟨rfl, rfl⟩

end Nibiru.Oracle
