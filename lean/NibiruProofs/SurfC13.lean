/-
  SurfC13 — GENERATED by bin/pin-surface (a developer tool) on the tree the models were written against; committed.
  The fingerprints of the functions property C13's model was written from (lib/surface.json) as they were then; the
  extractor recomputes them from /repo on every run (Generated.surface_C13).  A difference means that a modelled function
  changed structurally: the hand-written model is then no longer known to describe it, the obligation breaks and the check
  searches for a failing input (DESIGN §3, T1-S).
-/
import Generated.Facts

namespace Nibiru.Surface

def expected_C13 : List (String × String) := [
  ("x/epochs/abci.go:BeginBlocker", "032d1bcf7b23c5fd"),
  ("x/epochs/abci.go:shouldEpochStart", "75cb001e8cfb01d1"),
  ("x/inflation/keeper/hooks.go:Hooks.AfterEpochEnd", "fbd9ee7e0e161bbf"),
  ("x/inflation/keeper/hooks.go:Hooks.BeforeEpochStart", "5a5850ef15c7313f"),
  ("x/inflation/keeper/hooks.go:Keeper.Hooks", "5e0b989b6d9be8b7"),
  ("x/inflation/keeper/inflation.go:Keeper.AllocatePolynomialInflation", "73c66db57029529b"),
  ("x/inflation/keeper/inflation.go:Keeper.GetCirculatingSupply", "a86e4ffb5044215a"),
  ("x/inflation/keeper/inflation.go:Keeper.GetEpochMintProvision", "0f1b19ec675a1ed4"),
  ("x/inflation/keeper/inflation.go:Keeper.GetInflationRate", "d3f2fd57e8af3efe"),
  ("x/inflation/keeper/inflation.go:Keeper.GetProportions", "6a309424e6158bed"),
  ("x/inflation/keeper/inflation.go:Keeper.MintAndAllocateInflation", "593d3ad41c3ed202"),
  ("x/inflation/keeper/inflation.go:Keeper.MintCoins", "498336226202b116"),
  ("x/inflation/keeper/keeper.go:Keeper.Burn", "42c199a6dc29be78"),
  ("x/inflation/keeper/keeper.go:Keeper.Logger", "4a555e078a9e9b18"),
  ("x/inflation/keeper/keeper.go:NewKeeper", "4adc989866387081"),
  ("x/inflation/keeper/sudo.go:Keeper.Sudo", "5f72c2ce7c4a0424"),
  ("x/inflation/keeper/sudo.go:MergeInflationParams", "5cf38fe002177180"),
  ("x/inflation/keeper/sudo.go:sudoExtension.EditInflationParams", "6a47da66f52e51ea"),
  ("x/inflation/keeper/sudo.go:sudoExtension.ToggleInflation", "d4c0342eceb1c7c2"),
  ("x/inflation/types/inflation_calculation.go:CalculateEpochMintProvision", "146e247d8cc436c4"),
  ("x/inflation/types/inflation_calculation.go:polynomial", "6ab80e55e8646938"),
  ("x/inflation/types/params.go:DefaultEpochsPerPeriod", "ba63c812370f1d6e"),
  ("x/inflation/types/params.go:DefaultInflation", "607f5d6ac0db91fa"),
  ("x/inflation/types/params.go:DefaultInflationDistribution", "e378c18f23d4cb84"),
  ("x/inflation/types/params.go:DefaultMaxPeriod", "3288d7d26df99fea"),
  ("x/inflation/types/params.go:DefaultParams", "ffc9dd0501391a56"),
  ("x/inflation/types/params.go:DefaultPeriodsPerYear", "11b7790129e47b28"),
  ("x/inflation/types/params.go:DefaultPolynomialFactors", "6323c367f9068e78"),
  ("x/inflation/types/params.go:KeyEpochsPerPeriod", "0b5b6cae4f4c3285"),
  ("x/inflation/types/params.go:KeyHasInflationStarted", "270069cf9eae6163"),
  ("x/inflation/types/params.go:KeyInflationDistribution", "42f583a94b5de7cc"),
  ("x/inflation/types/params.go:KeyInflationEnabled", "1b495d0b83d300d8"),
  ("x/inflation/types/params.go:KeyMaxPeriod", "b74234b684780076"),
  ("x/inflation/types/params.go:KeyPeriodsPerYear", "5c7684f92e228e71"),
  ("x/inflation/types/params.go:KeyPolynomialFactors", "3606d08d7bf7d64f"),
  ("x/inflation/types/params.go:NewParams", "802dd372330ffb59"),
  ("x/inflation/types/params.go:Params.Validate", "b33ed266bbe25b93"),
  ("x/inflation/types/params.go:validateBool", "66355610f2ef34a3"),
  ("x/inflation/types/params.go:validateEpochsPerPeriod", "5ad8284b1392a7d9"),
  ("x/inflation/types/params.go:validateInflationDistribution", "6f405af3aeee4c15"),
  ("x/inflation/types/params.go:validatePeriodsPerYear", "11a5b78a306ba2db"),
  ("x/inflation/types/params.go:validatePolynomialFactors", "118044b37dc4dac2"),
  ("x/inflation/types/params.go:validateUint64", "0eeb1b854b92b121")]

/-- 43 declarations -/
theorem fact_C13_surface_fingerprints : Generated.surface_C13 = expected_C13 := rfl

end Nibiru.Surface
