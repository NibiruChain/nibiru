/-
  SDBOrder — C01 for the EVM write-back: what `Commit` persists does not depend on the order in which Go delivers the keys of the
  `journal.dirties` map (nor, per object, of `DirtyStorage`), because both key sets are sorted before they are walked
  (`journal.sortedDirties`, `Storage.SortedKeys`).  In the model the two Go maps are association lists; a different iteration order
  is a permutation of the list.
-/
import NibiruProofs.SDBCommit

namespace Nibiru.SDB
open Nibiru

/-- the sorted key list depends only on which keys there are -/
theorem sortNat_of_same_members (l l' : List Nat) (h : ∀ x, x ∈ l ↔ x ∈ l') : sortNat l = sortNat l' :=
  List.Perm.eq_of_pairwise (le := (· < ·)) (fun _ _ _ _ h1 h2 => absurd h1 (Nat.lt_asymm h2)) (sortNat_sorted l) (sortNat_sorted l')
    ((List.perm_ext_iff_of_nodup (sortNat_nodup l) (sortNat_nodup l')).mpr fun x => by rw [mem_sortNat, mem_sortNat, h x])

/-- the write-back reads the state only through the objects and the CURRENT store -/
def piC (acc : S × Store) : List (Nat × Obj) × Store × Store := (acc.1.objs, curStore acc.1, acc.2)

theorem stepC_pi (acc acc' : S × Store) (a : Nat) (h : piC acc = piC acc') : piC (stepC acc a) = piC (stepC acc' a) := by
  obtain ⟨s, st⟩ := acc
  obtain ⟨s', st'⟩ := acc'
  simp only [piC, Prod.mk.injEq] at h
  obtain ⟨h1, h2, h3⟩ := h
  subst h3
  -- `getObj` finds the same object and leaves the same objects
  have hg : (getObj s a).1.objs = (getObj s' a).1.objs ∧ (getObj s a).2 = (getObj s' a).2 := by
    unfold getObj
    rw [h1, h2]
    split
    · exact ⟨h1, rfl⟩
    · split
      · exact ⟨rfl, rfl⟩
      · exact ⟨h1, rfl⟩
  unfold piC
  rw [stepC_curStore, stepC_curStore]
  unfold stepC
  generalize getObj s a = r at hg
  generalize getObj s' a = r' at hg
  obtain ⟨s1, o?⟩ := r
  obtain ⟨s1', o?'⟩ := r'
  obtain ⟨g1, g2⟩ := hg
  simp only at g1 g2
  subst g2
  cases o? with
  | none => simp only [g1, h2]
  | some o => simp only [g1, h2, setObj]; split <;> rfl

theorem commitInto_congr (s s' : S) (st : Store) (ho : s'.objs = s.objs) (hc : curStore s' = curStore s)
    (hd : ∀ x, x ∈ s'.dirties.map (·.1) ↔ x ∈ s.dirties.map (·.1)) :
    (commitInto s' st).2 = (commitInto s st).2 ∧ (commitInto s' st).1.objs = (commitInto s st).1.objs := by
  rw [commitInto_eq, commitInto_eq, sortNat_of_same_members _ _ hd]
  have := List.foldl_rel (l := sortNat (s.dirties.map (·.1))) (r := fun x y => piC x = piC y)
    (show piC (s', st) = piC (s, st) by unfold piC; simp only [ho, hc]) (fun a _ x y => stepC_pi x y a)
  exact ⟨congrArg (·.2.2) this, congrArg (·.1) this⟩

/-- **C01 — the write-back is independent of the iteration order of `journal.dirties`.** `d'` is any other order in which the map
    could have delivered its entries: the store written by `commitCtx` is the same, and so are the state objects it leaves. -/
theorem C01_commit_independent_of_dirties_order (s : S) (st : Store) (d' : List (Nat × Int)) (h : d'.Perm s.dirties) :
    (commitInto { s with dirties := d' } st).2 = (commitInto s st).2 ∧
    (commitInto { s with dirties := d' } st).1.objs = (commitInto s st).1.objs :=
  commitInto_congr s { s with dirties := d' } st rfl rfl fun _ => (h.map _).mem_iff

/-- … and so is the whole `Commit` -/
theorem C01_commit_store_independent_of_dirties_order (s : S) (d' : List (Nat × Int)) (h : d'.Perm s.dirties) :
    (commit { s with dirties := d' }).txStore = (commit s).txStore := by
  rw [commit_store, commit_store]
  exact (C01_commit_independent_of_dirties_order { s with txStore := curStore s } (curStore s) d' h).1

/-- the flush reads `DirtyStorage` only through lookups: any association list that answers them alike is flushed alike -/
theorem flushObj_congr_dirty (st : Store) (a : Nat) (o : Obj) (dirty' : List (Nat × Nat))
    (hv : ∀ k, AList.find? dirty' k = AList.find? o.dirty k) :
    (flushObj st a { o with dirty := dirty' }).1 = (flushObj st a o).1 := by
  rw [flushObj_eq, flushObj_eq]
  show (List.foldl (flushStep a) _ (sortNat (dirty'.map (·.1)))).1 = _
  rw [sortNat_of_same_members _ (o.dirty.map (·.1)) fun x => by
    rw [← Decidable.not_iff_not, ← find?_none_iff, ← find?_none_iff, hv]]
  refine (List.foldl_rel (f := flushStep a) (g := flushStep a) (r := fun x y => x.1 = y.1 ∧ x.2.origin = y.2.origin ∧
      ∀ k, AList.find? x.2.dirty k = AList.find? y.2.dirty k) ?_ fun k _ x y ⟨h1, h2, h3⟩ => ?_).1
  · exact ⟨rfl, rfl, hv⟩
  unfold flushStep
  simp only [h3 k, h2, h1]
  split
  · exact ⟨h1, h2, h3⟩
  · exact ⟨rfl, rfl, h3⟩

/-- per object: the slots `commitCtx` writes do not depend on the iteration order of `DirtyStorage` — `Storage.SortedKeys` sorts
    them; `dirty'` is any reordering that keeps every key's value -/
theorem C01_flush_independent_of_dirty_storage_order (st : Store) (a : Nat) (o : Obj) (dirty' : List (Nat × Nat))
    (hp : dirty'.Perm o.dirty) (hv : ∀ k, AList.find? dirty' k = AList.find? o.dirty k) :
    (flushObj st a { o with dirty := dirty' }).1 = (flushObj st a o).1 :=
  flushObj_congr_dirty st a o dirty' hv

end Nibiru.SDB
