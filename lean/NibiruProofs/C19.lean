/-
  C19 — EVM log and transaction indices are unique and gap-free within a block.
  Theorems about NibiruModel.LogIndex (TxConfig, StateDB.AddLog, updateBlockBloom and its four call sites, EndBlock bloom).
-/
import NibiruModel.LogIndex
import Generated.Facts
namespace Nibiru.LogIndex

inductive Op where
  | eth (n : Nat) (o : Outcome)
  | cosmos (site : Site) (n : Nat) (ok : Bool)
deriving Repr

def apply (c : Cfg) (s : State) : Op → State
  | .eth n o => (ethTx c s n o).1
  | .cosmos site n ok => (cosmosOp c s site n ok).1

def runBlock (c : Cfg) : State → List Op → State
  | s, [] => s
  | s, op :: ops => runBlock c (apply c s op) ops

/-- the block invariant: the transient log size is the number of logs emitted so far, the logs carry the indices 0,1,2,… in
    emission order, the block bloom folds exactly the emitted logs, and the executed eth txs carry 0,1,2,… -/
structure Inv (s : State) : Prop where
  size : s.logSize = s.logs.length
  idx : s.logs.map (·.index) = List.range s.logs.length
  bloom : s.bloom = s.logs.map (·.id)
  txs : s.ethTxs = List.range s.txIndex

theorem Inv_init : Inv {} := ⟨rfl, rfl, rfl, rfl⟩

theorem mkLogs_length (s : State) (n : Nat) : (mkLogs s n).length = n := by simp [mkLogs]

theorem mkLogs_index (s : State) (n : Nat) : (mkLogs s n).map (·.index) = (List.range n).map (fun i => s.logSize + i) := by
  simp [mkLogs, List.map_map, Function.comp_def]

theorem mkLogs_id (s : State) (n : Nat) : (mkLogs s n).map (·.id) = (List.range n).map (fun i => s.nextId + i) := by
  simp [mkLogs, List.map_map, Function.comp_def]

theorem updateBloom_txIndex (s : State) (a : Nat) (l : List Log) : (updateBloom s a l).txIndex = s.txIndex := by
  unfold updateBloom; split <;> rfl

theorem updateBloom_ethTxs (s : State) (a : Nat) (l : List Log) : (updateBloom s a l).ethTxs = s.ethTxs := by
  unfold updateBloom; split <;> rfl

/-- called with the log index, `updateBloom` is one record update whether or not there are logs -/
theorem updateBloom_logSize (s : State) (logs : List Log) :
    updateBloom s s.logSize logs = { s with bloom := s.bloom ++ logs.map (·.id), logSize := s.logSize + logs.length } := by
  unfold updateBloom
  split
  · rename_i he; rw [List.isEmpty_iff.mp he]; simp
  · rfl

/-- appending the logs of one operation keeps the invariant, provided the log size is advanced from the log index; the
    transaction counter may move on (`tx'`, `etx`) -/
theorem Inv_emit (s : State) (h : Inv s) (n tx' : Nat) (etx : List Nat) (hetx : etx = List.range tx') :
    Inv { (updateBloom s s.logSize (mkLogs s n)) with
          logs := s.logs ++ mkLogs s n, nextId := s.nextId + (mkLogs s n).length, ethTxs := etx, txIndex := tx' } := by
  rw [updateBloom_logSize]
  refine ⟨by simp [h.size], ?_, by simp [h.bloom], hetx⟩
  simp only [List.map_append, List.length_append, mkLogs_index, mkLogs_length, h.idx, h.size, List.range_add]

/-- each operation under `goodCfg` is an instance of `Inv_emit` up to unfolding: an executed Ethereum tx emits its logs (none when
    reverted: `mkLogs s 0`) and moves the transaction counter, a FunToken operation emits its logs and leaves the counter as
    `updateBloom` has it -/
theorem Inv_step (s : State) (op : Op) (h : Inv s) : Inv (apply goodCfg s op) := by
  cases op with
  | eth n o =>
    cases o with
    | failed => exact h
    | ok => exact Inv_emit s h n _ _ (by rw [h.txs, List.range_succ])
    | reverted => exact Inv_emit s h 0 _ _ (by rw [h.txs, List.range_succ])
  | cosmos site n ok =>
    cases ok with
    | false => exact h
    | true => exact Inv_emit s h n _ _ (by rw [updateBloom_txIndex, updateBloom_ethTxs]; exact h.txs)

theorem Inv_block (s : State) (ops : List Op) (h : Inv s) : Inv (runBlock goodCfg s ops) := by
  induction ops generalizing s with
  | nil => exact h
  | cons op ops ih => exact ih _ (Inv_step s op h)

/-- **C19, log indices.** For every block composition — successful, reverted and failing Ethereum transactions with any number of
    logs interleaved with FunToken operations of Cosmos transactions — the logs emitted in the block carry the indices
    0, 1, 2, … in emission order (distinct, consecutive, starting at 0). -/
theorem C19_indices_consecutive (ops : List Op) :
    (runBlock goodCfg {} ops).logs.map (·.index) = List.range (runBlock goodCfg {} ops).logs.length :=
  (Inv_block {} ops Inv_init).idx

/-- **C19, transaction indices.** The executed Ethereum transactions (successful or reverted; not the failing ones) carry
    0, 1, 2, … in execution order. -/
theorem C19_tx_indices_consecutive (ops : List Op) :
    (runBlock goodCfg {} ops).ethTxs = List.range (runBlock goodCfg {} ops).txIndex :=
  (Inv_block {} ops Inv_init).txs

/-- **C19, bloom.** The block bloom published at end of block folds exactly the logs emitted in the block. -/
theorem C19_bloom_is_union (ops : List Op) :
    (runBlock goodCfg {} ops).bloom = (runBlock goodCfg {} ops).logs.map (·.id) :=
  (Inv_block {} ops Inv_init).bloom

/-- **C19, a log of an Ethereum transaction carries that transaction's index**, and reverted or failing transactions
    contribute no log. -/
theorem C19_eth_log_carries_tx_index (s : State) (n : Nat) (o : Outcome) :
    (∀ l ∈ (ethTx goodCfg s n o).2, l.txIndex = s.txIndex) ∧
    (o ≠ .ok → (ethTx goodCfg s n o).2 = []) ∧
    (o ≠ .failed → (ethTx goodCfg s n o).1.ethTxs = s.ethTxs ++ [s.txIndex] ∧ (ethTx goodCfg s n o).1.txIndex = s.txIndex + 1) ∧
    (o = .failed → (ethTx goodCfg s n o).1 = s) := by
  cases o <;> simp [ethTx, mkLogs]

/-- **T1: the call sites of the code are the good configuration** (regenerated from the source on every run): every
    `updateBlockBloom` call passes the tx config's log index. -/
theorem fact_C19_all_sites_pass_log_index :
    ∀ site, (cfgOfFacts Generated.bloomSiteArgs).arg site = ArgKind.logSize := by
  intro site; cases site <;> decide +kernel

theorem fact_C19_counter_writes : Generated.blockCounterWrites =
    ["BlockLogSize@x/evm/keeper:Keeper.updateBlockBloom=logIndex + uint64(len(logs))",
     "BlockTxIndex@x/evm/keeper:Keeper.EthereumTx=uint64(txConfig.TxIndex) + 1"] := rfl

/-- the configuration the code had before the repair: FunToken conversions passed the *transaction* index and the ERC20
    deployment passed 0 -/
def oldCfg : Cfg := { arg := fun site => match site with
  | .ethTx => .logSize | .convertCoinBorn => .txIndex | .convertErc20Born => .txIndex | .deployErc20 => .zero }

/-- **Counterexample for the old call sites** (the defect repaired by the `fix:` commit; replayed on the implementation before
    the repair): an Ethereum tx with 3 logs, a ConvertCoinToEvm, an Ethereum tx with 1 log — the last log reuses index 2. -/
theorem C19_counterexample_old_sites :
    (runBlock oldCfg {} [.eth 3 .ok, .cosmos .convertCoinBorn 1 true, .eth 1 .ok]).logs.map (·.index) = [0, 1, 2, 3, 2] := by
  decide +kernel

example : (runBlock goodCfg {} [.eth 3 .ok, .cosmos .convertCoinBorn 1 true, .eth 1 .reverted, .eth 2 .failed, .cosmos .deployErc20 1 true,
    .eth 1 .ok]).logs.map (fun l => (l.index, l.txIndex)) = [(0, 0), (1, 0), (2, 0), (3, 1), (4, 2), (5, 2)] := by decide +kernel

end Nibiru.LogIndex
