/-
  SurfC08 — GENERATED by bin/pin-surface (a developer tool) on the tree the models were written against; committed.
  The fingerprints of the functions property C08's model was written from (lib/surface.json) as they were then; the
  extractor recomputes them from /repo on every run (Generated.surface_C08).  A difference means that a modelled function
  changed structurally: the hand-written model is then no longer known to describe it, the obligation breaks and the check
  searches for a failing input (DESIGN §3, T1-S).
-/
import Generated.Facts

namespace Nibiru.Surface

def expected_C08 : List (String × String) := [
  ("x/evm/precompile/errors.go:ErrArgTypeValidation", "451c764274b9d55f"),
  ("x/evm/precompile/errors.go:ErrInvalidArgs", "9710d18e4c202048"),
  ("x/evm/precompile/errors.go:ErrMethodCalled", "12af70c1d24c52d3"),
  ("x/evm/precompile/errors.go:ErrPrecompileRun", "ebe5a88c9a3d7edc"),
  ("x/evm/precompile/errors.go:assertContractQuery", "a4bc648e186b518f"),
  ("x/evm/precompile/errors.go:assertNotReadonlyTx", "76367ea9394f5d5d"),
  ("x/evm/precompile/errors.go:assertNumArgs", "933bd073a458722b"),
  ("x/evm/precompile/funtoken.go:FunTokenMethod_balance", "ebdade74aa917633"),
  ("x/evm/precompile/funtoken.go:FunTokenMethod_bankBalance", "45c2e0a5841bc390"),
  ("x/evm/precompile/funtoken.go:FunTokenMethod_bankMsgSend", "3edc0a8b6e459ceb"),
  ("x/evm/precompile/funtoken.go:FunTokenMethod_getErc20Address", "46705f0937e65c4d"),
  ("x/evm/precompile/funtoken.go:FunTokenMethod_sendToBank", "f42083c57d9d4684"),
  ("x/evm/precompile/funtoken.go:FunTokenMethod_sendToEvm", "107cf88701d94ba3"),
  ("x/evm/precompile/funtoken.go:FunTokenMethod_whoAmI", "895c43247c94221a"),
  ("x/evm/precompile/funtoken.go:PrecompileAddr_FunToken", "6bada78094e59947"),
  ("x/evm/precompile/funtoken.go:PrecompileFunToken", "c4183e083a7bc3a8"),
  ("x/evm/precompile/funtoken.go:parseArgsBankMsgSend", "44326799ef1bb36a"),
  ("x/evm/precompile/funtoken.go:parseArgsSendToEvm", "3553d07d60d854e4"),
  ("x/evm/precompile/funtoken.go:parseToAddr", "461b9c38078cd51f"),
  ("x/evm/precompile/funtoken.go:precompileFunToken.ABI", "d4da8adf2e0add34"),
  ("x/evm/precompile/funtoken.go:precompileFunToken.Address", "0ead5f01841e0ae9"),
  ("x/evm/precompile/funtoken.go:precompileFunToken.RequiredGas", "fb80deb6bd8f9f49"),
  ("x/evm/precompile/funtoken.go:precompileFunToken.Run", "83653bf9a1b73318"),
  ("x/evm/precompile/funtoken.go:precompileFunToken.balance", "ae3fdf2eaa0d79b6"),
  ("x/evm/precompile/funtoken.go:precompileFunToken.bankBalance", "2659ce58982d5303"),
  ("x/evm/precompile/funtoken.go:precompileFunToken.bankMsgSend", "aceb504560d58a11"),
  ("x/evm/precompile/funtoken.go:precompileFunToken.getErc20Address", "fb1d48a57b056493"),
  ("x/evm/precompile/funtoken.go:precompileFunToken.mintOrUnescrowERC20", "9767befb8379f3c8"),
  ("x/evm/precompile/funtoken.go:precompileFunToken.parseArgsBalance", "5cf043fd6892e8a6"),
  ("x/evm/precompile/funtoken.go:precompileFunToken.parseArgsBankBalance", "df1d52d29a9433ed"),
  ("x/evm/precompile/funtoken.go:precompileFunToken.parseArgsGetErc20Address", "d583dcdbe727dd13"),
  ("x/evm/precompile/funtoken.go:precompileFunToken.parseArgsSendToBank", "e23b210d73f60c8d"),
  ("x/evm/precompile/funtoken.go:precompileFunToken.parseArgsWhoAmI", "5891ac4cc43ca250"),
  ("x/evm/precompile/funtoken.go:precompileFunToken.sendToBank", "d523551b46b17186"),
  ("x/evm/precompile/funtoken.go:precompileFunToken.sendToEvm", "93df6283ae488538"),
  ("x/evm/precompile/funtoken.go:precompileFunToken.whoAmI", "728268c0ec79c97a"),
  ("x/evm/precompile/nibiru_evm_utils.go:AttrsToJSON", "0ce93ad5e04f71d2"),
  ("x/evm/precompile/nibiru_evm_utils.go:EmitEventAbciEvents", "5db499665e8d6a87"),
  ("x/evm/precompile/nibiru_evm_utils.go:EventTopicFromBytes", "d3e06689ceda58c3"),
  ("x/evm/precompile/nibiru_evm_utils.go:EventTopicFromString", "6429a9d6bd1b5055"),
  ("x/evm/precompile/nibiru_evm_utils.go:EvmEventAbciEvent", "dfec3c5f38ce492b"),
  ("x/evm/precompile/oracle.go:OracleMethod_chainLinkLatestRoundData", "0c5914cd2a603f15"),
  ("x/evm/precompile/oracle.go:OracleMethod_queryExchangeRate", "2f789d8dc0a7ef4e"),
  ("x/evm/precompile/oracle.go:PrecompileAddr_Oracle", "989f7d425e40c415"),
  ("x/evm/precompile/oracle.go:PrecompileOracle", "1854c0fb9632ff6a"),
  ("x/evm/precompile/oracle.go:precompileOracle.ABI", "211ea5953825a4fb"),
  ("x/evm/precompile/oracle.go:precompileOracle.Address", "3b6ae1ad22c03dac"),
  ("x/evm/precompile/oracle.go:precompileOracle.RequiredGas", "b59a6097dbf5de5d"),
  ("x/evm/precompile/oracle.go:precompileOracle.Run", "e7611df3e8c93fea"),
  ("x/evm/precompile/oracle.go:precompileOracle.chainLinkLatestRoundData", "de85d875bbac2103"),
  ("x/evm/precompile/oracle.go:precompileOracle.parseQueryExchangeRateArgs", "bce3bee7b2384155"),
  ("x/evm/precompile/oracle.go:precompileOracle.queryExchangeRate", "2cad6bbcd35ada7e"),
  ("x/evm/precompile/precompile.go:HandleOutOfGasPanic", "83cf3f4bf983a39e"),
  ("x/evm/precompile/precompile.go:InitPrecompiles", "e65ddc529f64fe63"),
  ("x/evm/precompile/precompile.go:OnRunStart", "3938ac3cfd11eae7"),
  ("x/evm/precompile/precompile.go:decomposeInput", "412ac88fe454d9e9"),
  ("x/evm/precompile/precompile.go:isMutation", "123023977883fea5"),
  ("x/evm/precompile/precompile.go:methodById", "4f71b10071e30b78"),
  ("x/evm/precompile/precompile.go:requiredGas", "e0dcfa838fc68302"),
  ("x/evm/precompile/wasm.go:PrecompileAddr_Wasm", "4cc9365a3ab38b96"),
  ("x/evm/precompile/wasm.go:PrecompileWasm", "23724d1b5e0a68a7"),
  ("x/evm/precompile/wasm.go:WasmMethod_execute", "d99937e2efcf4524"),
  ("x/evm/precompile/wasm.go:WasmMethod_executeMulti", "2d0bca3c0f4e6a81"),
  ("x/evm/precompile/wasm.go:WasmMethod_instantiate", "65ca6114ca808e05"),
  ("x/evm/precompile/wasm.go:WasmMethod_query", "7cac25967f7d0ef5"),
  ("x/evm/precompile/wasm.go:WasmMethod_queryRaw", "638662cc2011aed6"),
  ("x/evm/precompile/wasm.go:precompileWasm.ABI", "0ef1ba4eb7fb4978"),
  ("x/evm/precompile/wasm.go:precompileWasm.Address", "4c00adc27054ad10"),
  ("x/evm/precompile/wasm.go:precompileWasm.RequiredGas", "07a874c6b0008da3"),
  ("x/evm/precompile/wasm.go:precompileWasm.Run", "d4eb5ccf5f97893a"),
  ("x/evm/precompile/wasm.go:precompileWasm.execute", "124fedba94529cf3"),
  ("x/evm/precompile/wasm.go:precompileWasm.executeMulti", "f226a8a161a81300"),
  ("x/evm/precompile/wasm.go:precompileWasm.instantiate", "3e81d0471955bbfa"),
  ("x/evm/precompile/wasm.go:precompileWasm.query", "b71e2d7ccd31460d"),
  ("x/evm/precompile/wasm.go:precompileWasm.queryRaw", "d839b36580972946"),
  ("x/evm/precompile/wasm_parse.go:parseArgContractAddr", "79e74d8f4499f3f9"),
  ("x/evm/precompile/wasm_parse.go:parseFundsArg", "62f584efc9a42c4c"),
  ("x/evm/precompile/wasm_parse.go:precompileWasm.parseArgsWasmExecute", "59267433919f7bce"),
  ("x/evm/precompile/wasm_parse.go:precompileWasm.parseArgsWasmExecuteMulti", "0c67b82a9d3c436c"),
  ("x/evm/precompile/wasm_parse.go:precompileWasm.parseArgsWasmInstantiate", "794bafccce489adc"),
  ("x/evm/precompile/wasm_parse.go:precompileWasm.parseArgsWasmQuery", "b4e91cee218bb2af"),
  ("x/evm/statedb/statedb.go:StateDB.SavePrecompileCalledJournalChange", "2e9762e5899ca87e")]

/-- 82 declarations -/
theorem fact_C08_surface_fingerprints : Generated.surface_C08 = expected_C08 := rfl

end Nibiru.Surface
