/-
  SurfC20 — GENERATED by bin/pin-surface (a developer tool) on the tree the models were written against; committed.
  The fingerprints of the functions property C20's model was written from (lib/surface.json) as they were then; the
  extractor recomputes them from /repo on every run (Generated.surface_C20).  A difference means that a modelled function
  changed structurally: the hand-written model is then no longer known to describe it, the obligation breaks and the check
  searches for a failing input (DESIGN §3, T1-S).
-/
import Generated.Facts

namespace Nibiru.Surface

def expected_C20 : List (String × String) := [
  ("app/export.go:NibiruApp.ExportAppStateAndValidators", "f3569bcf09868303"),
  ("app/export.go:NibiruApp.prepForZeroHeightGenesis", "3a7a2c9b7eec295f"),
  ("x/devgas/v1/genesis.go:ExportGenesis", "a30e6fa554bd3854"),
  ("x/devgas/v1/genesis.go:InitGenesis", "6a07c5d5ecbc59b3"),
  ("x/epochs/genesis.go:ExportGenesis", "716693d6893f04cf"),
  ("x/epochs/genesis.go:InitGenesis", "ab11e69251f3d263"),
  ("x/epochs/keeper/epoch.go:Keeper.AddEpochInfo", "f2f8ae8601fbbd28"),
  ("x/evm/evmmodule/genesis.go:ExportGenesis", "753c72aac98a4495"),
  ("x/evm/evmmodule/genesis.go:InitGenesis", "28db0d24eee74acb"),
  ("x/inflation/genesis.go:ExportGenesis", "700c93010adb6780"),
  ("x/inflation/genesis.go:InitGenesis", "a2e293facbc6cf91"),
  ("x/oracle/genesis.go:ExportGenesis", "7be1df5732806756"),
  ("x/oracle/genesis.go:InitGenesis", "61b782fdbdf053e1"),
  ("x/sudo/genesis.go:DefaultGenesis", "9a34ee7ee9437901"),
  ("x/sudo/genesis.go:ExportGenesis", "24c71830feb16307"),
  ("x/sudo/genesis.go:InitGenesis", "8d882c1e5712a4c0"),
  ("x/tokenfactory/keeper/genesis.go:Keeper.ExportGenesis", "4223b6cd88eaf81b"),
  ("x/tokenfactory/keeper/genesis.go:Keeper.InitGenesis", "66ad27dc1f8baa55"),
  ("x/tokenfactory/keeper/store.go:IndexesTokenFactory.IndexerList", "4952832c9d071224"),
  ("x/tokenfactory/keeper/store.go:NewTFDenomStore", "1626b1cc35ea3f31"),
  ("x/tokenfactory/keeper/store.go:StoreAPI.GetAdmin", "0626759f0b576e1e"),
  ("x/tokenfactory/keeper/store.go:StoreAPI.GetDenomAuthorityMetadata", "c3f13e7c60f53784"),
  ("x/tokenfactory/keeper/store.go:StoreAPI.HasCreator", "9e6fccc0cec94820"),
  ("x/tokenfactory/keeper/store.go:StoreAPI.HasDenom", "266934345a77e357"),
  ("x/tokenfactory/keeper/store.go:StoreAPI.InsertDenom", "54be8c0f6a9af2b3"),
  ("x/tokenfactory/keeper/store.go:StoreAPI.unsafeGenesisInsertDenom", "dbc5c1272578b54f"),
  ("x/tokenfactory/keeper/store.go:StoreAPI.unsafeInsertDenom", "1d0a9b6dd79e9262")]

/-- 27 declarations -/
theorem fact_C20_surface_fingerprints : Generated.surface_C20 = expected_C20 := rfl

end Nibiru.Surface
