/-
  C01 — replicated execution is deterministic across all modules.   PARTIAL.

  Proved (for every permutation in which Go may deliver a map's entries):
    * sorting the collected keys gives one result                                  (class `sorted`)
    * folding per-key updates into a keyed store gives one store                    (class `keyed`)
    * summing gives one total                                                       (class `sum`)
    * a first-match loop over entries of which at most one matches gives one answer (class `firstMatch`)
    * `Sudoers.ToPb` persists one value when it sorts — and two different ones when it does not (counterexample)
  T1 (regenerated on every run by tools/mapranges, typed): the list of map-range sites, goroutines, wall-clock reads and
  consumers of set.Set.ToSlice in the consensus packages equals the classified expectation.
  NOT proved: that each site's loop body really has the shape of its class (tied by the replica differential run), and the
  determinism of the SDK, IAVL, wasmvm, the interpreter and the Go runtime.
-/
import NibiruModel.Determinism
import Generated.MapRanges
import Generated.Facts

namespace Nibiru.Determinism
open Nibiru List

/-! ### T1 -/
theorem fact_C01_map_range_sites : Generated.mapRangeSites = expectedSites.map (·.1) := rfl

/-- … and inside each of those loops, the writes to anything that outlives an iteration (and the early exits) are exactly the
    ones the classification was made for -/
theorem fact_C01_map_range_outer_writes : Generated.mapRangeOuterWrites = expectedOuterWrites := rfl
theorem fact_C01_to_slice_consumers : Generated.setToSliceConsumers = expectedToSliceConsumers := rfl
theorem fact_C01_goroutines_and_clock :
    Generated.goStmtSites = expectedGoStmts ∧ Generated.selectStmtSites = [] ∧ Generated.timeNowSites = expectedTimeNow := ⟨rfl, rfl, rfl⟩
/-- the only site classified as leaking is `set.Set.ToSlice` (that every consumer persisting its result sorts it is
    `fact_C01_to_slice_consumers`) -/
theorem fact_C01_leak_is_contained :
    (expectedSites.filter (fun s => s.2 = .leak)).map (·.1) = ["x/common/set:Set[T].ToSlice:set"] := rfl

/-- every literal comparator handed to sort.Slice in the consensus packages compares its two indices (a comparator that
    compares an element with itself leaves the slice in iteration order) -/
theorem fact_C01_sort_comparators :
    Generated.sortComparators = [("x/evm/statedb:Storage.SortedKeys", true), ("x/evm/statedb:journal.sortedDirties", true)] := rfl

/-! ### sorted -/

theorem leNat_trans (a b c : Nat) : leNat a b = true → leNat b c = true → leNat a c = true := by
  simp only [leNat, decide_eq_true_eq]; omega
theorem leNat_total (a b : Nat) : (leNat a b || leNat b a) = true := by
  simp only [leNat, Bool.or_eq_true, decide_eq_true_eq]; omega

/-- **C01 (sorted).** Whatever order the map iteration delivers the keys in, the sorted key list is the same. -/
theorem C01_sort_perm_invariant (l l' : List Nat) (h : l.Perm l') : sortKeys l = sortKeys l' := by
  unfold sortKeys
  apply Perm.eq_of_pairwise (le := fun a b => leNat a b = true)
  · intro a b _ _ h1 h2
    simp only [leNat, decide_eq_true_eq] at h1 h2
    omega
  · exact pairwise_mergeSort leNat_trans leNat_total l
  · exact pairwise_mergeSort leNat_trans leNat_total l'
  · exact ((mergeSort_perm l leNat).trans h).trans (mergeSort_perm l' leNat).symm

/-! ### keyed -/

theorem applyKeyed_comm (st : KStore) (x y : Nat × (Option Nat → Option Nat)) (h : x.1 ≠ y.1) :
    applyKeyed (applyKeyed st x) y = applyKeyed (applyKeyed st y) x := by
  funext k
  simp only [applyKeyed]
  by_cases h1 : k = y.1 <;> by_cases h2 : k = x.1
  · exact absurd (h2.symm.trans h1) h
  · subst h1; simp [Ne.symm h]
  · subst h2; simp [h]
  · simp [h1, h2]

/-- **C01 (keyed).** Entries with distinct keys, each updating only its own key (incrementing a per-validator counter, writing
    a per-address account, inserting into a Go map): the resulting store does not depend on the iteration order. -/
theorem C01_keyed_fold_perm_invariant (l l' : List (Nat × (Option Nat → Option Nat))) (h : l.Perm l')
    (nd : (l.map (·.1)).Nodup) (st : KStore) : l.foldl applyKeyed st = l'.foldl applyKeyed st := by
  -- core's `Perm.foldl_eq'`: a fold is invariant under permutation when the steps of any two entries of the list commute
  have pw : l.Pairwise (fun x y => x.1 ≠ y.1) := pairwise_map.mp nd
  exact h.foldl_eq' (fun _ hx _ hy => Pairwise.forall_of_forall_of_flip (fun _ _ _ => rfl)
    (pw.imp fun hxy z => applyKeyed_comm z _ _ hxy) (pw.imp fun hxy z => (applyKeyed_comm z _ _ hxy).symm) hx hy) st

/-! ### sum -/

/-- **C01 (sum).** A total over the entries (reward weights, dirty counts, coin amounts) is order-independent. -/
theorem C01_sum_perm_invariant {α : Type} (f : α → Nat) (l l' : List α) (h : l.Perm l') : (l.map f).sum = (l'.map f).sum :=
  (h.map f).sum_nat

/-! ### first match -/

/-- **C01 (first match).** If at most one entry satisfies the predicate (method ids, quote denoms are unique), the loop that
    returns the first match returns the same entry in every order. -/
theorem C01_firstmatch_perm_invariant {α : Type} (p : α → Bool) (l l' : List α) (h : l.Perm l')
    (uniq : ∀ a ∈ l, ∀ b ∈ l, p a = true → p b = true → a = b) : l.find? p = l'.find? p := by
  -- the matching entries of `l` and of `l'` are permutations of each other and all equal: the same list, hence the same head
  have pw : ∀ m : List α, (∀ a ∈ m, a ∈ l) → (m.filter p).Pairwise (· = ·) := fun m hm =>
    pairwise_of_forall_mem_list fun a ha b hb =>
      uniq a (hm a (mem_filter.mp ha).1) b (hm b (mem_filter.mp hb).1) (mem_filter.mp ha).2 (mem_filter.mp hb).2
  rw [← head?_filter, ← head?_filter,
    Perm.eq_of_pairwise (fun _ _ _ _ e _ => e) (pw l fun _ ha => ha) (pw l' fun _ ha => h.mem_iff.mpr ha) (h.filter p)]

/-! ### the leaking site and its persisted consumer -/

/-- **C01 (sudoers).** With the sort in `Sudoers.ToPb`, every replica persists the same contract list. -/
theorem C01_toPb_deterministic_when_sorted (l l' : List Nat) (h : l.Perm l') : toPb true l = toPb true l' :=
  C01_sort_perm_invariant l l' h

/-- without it, two replicas that iterate the same set in different orders persist different bytes (replayed on the real app:
    the app hashes diverge at the first MsgEditSudoers that leaves two or more contracts) -/
theorem C01_counterexample_toPb_unsorted : ∃ l l' : List Nat, l.Perm l' ∧ toPb false l ≠ toPb false l' :=
  ⟨[1, 2], [2, 1], Perm.swap 2 1 [], by decide⟩

/-- the source's `ToPb` sorts (the consumer fact above) hence is in the deterministic case -/
theorem C01_toPb_current (l l' : List Nat) (h : l.Perm l') :
    toPb ((AList.find? Generated.setToSliceConsumers "x/sudo/keeper:Sudoers.ToPb").getD false) l =
    toPb ((AList.find? Generated.setToSliceConsumers "x/sudo/keeper:Sudoers.ToPb").getD false) l' := by
  have : (AList.find? Generated.setToSliceConsumers "x/sudo/keeper:Sudoers.ToPb").getD false = true := by decide +kernel
  rw [this]
  exact C01_toPb_deterministic_when_sorted l l' h

/-! non-vacuity: two different iteration orders of one set -/
example : sortKeys [1, 2] = sortKeys [2, 1] := C01_sort_perm_invariant _ _ (Perm.swap 2 1 [])

/-- whether a node served RPC queries is an in-process incidental: the query handlers build private StateDBs (`statedb.New`), only
    the state-machine entry points use the constructor that publishes in the process-wide `Keeper.Bank.StateDB` (seed C01-11 had
    the trace handler publish its StateDB, which the next EVM message of the block then adopted) -/
theorem fact_C01_query_handlers_publish_nothing :
    Generated.privateConstructorCallers =
      ["x/evm/keeper:Keeper.EstimateGasForEvmCallType", "x/evm/keeper:Keeper.EthCall", "x/evm/keeper:Keeper.NewStateDB",
       "x/evm/keeper:Keeper.TraceEthTxMsg", "x/evm/keeper:Keeper.TraceTx"] ∧
    Generated.publishingConstructorCallers.all (fun c => c.startsWith "x/evm/keeper:Keeper.") = true :=
  ⟨rfl, by decide +kernel⟩

end Nibiru.Determinism
