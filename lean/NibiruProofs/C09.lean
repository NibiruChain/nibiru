/-
  C09 — queries and simulations never influence block execution.   PARTIAL.

  Over NibiruModel.Concurrency (the pointer-sharing protocol of Keeper.Bank.StateDB, two threads, every interleaving):
    * proved: a query whose steps are `isolated` (EthCall / EstimateGas without a bank-moving precompile, plain gRPC reads) cannot
      change what the block commits, whatever the schedule;
    * proved false (closed witnesses, replayed on the real code at deterministic yield points): an eth_call that reaches a
      bank-moving precompile, and a Simulate of an Ethereum tx, change what the block commits under some schedule.
  What no model can show: the Go scheduler, the memory model and data races proper.
-/
import NibiruModel.Concurrency
import Generated.Facts

namespace Nibiru.Concurrency
open Nibiru

/-- the part of the world the block thread reads and writes: everything but the query's private fields -/
def blockView (w : W) : W := { w with storeQ := fun _ => 0, dbQ := fun _ => 0, hQ := none }

/-- the two threads are separated: neither the pointer nor the block's handle designates the query's StateDB, and the query's
    handle does not designate the block's -/
def Sep (w : W) : Prop := w.ptr ≠ some .Q ∧ w.hT ≠ some .Q ∧ w.hQ ≠ some .T

/-- a step of the block thread acts on the block's view alone -/
theorem blockView_exec_T (w : W) (s : Step) (h : Sep w) :
    blockView (exec .T w s) = exec .T (blockView w) s ∧ Sep (exec .T w s) := by
  obtain ⟨sT, sQ, dT, dQ, ptr, hT, hQ⟩ := w
  obtain ⟨hp, hh, hq⟩ := h
  cases s with
  | useOrPublish =>
    rcases ptr with _ | _ | _
    · exact ⟨rfl, nofun, nofun, hq⟩
    · exact ⟨rfl, hp, nofun, hq⟩
    · exact absurd rfl hp
  | privateNew => exact ⟨rfl, hp, nofun, hq⟩
  | evmAdd a d | commit | flush =>
    -- through the block's handle: nil or its own StateDB
    rcases hT with _ | _ | _
    · exact ⟨rfl, hp, hh, hq⟩
    · exact ⟨rfl, hp, hh, hq⟩
    · exact absurd rfl hh
  | bankAdd a d =>
    -- mirrored into the designated StateDB: none or the block's own
    rcases ptr with _ | _ | _
    · exact ⟨rfl, hp, hh, hq⟩
    · exact ⟨rfl, hp, hh, hq⟩
    · exact absurd rfl hp
  | bankOther a d => exact ⟨rfl, hp, hh, hq⟩
  | clear => exact ⟨rfl, nofun, hh, hq⟩

/-- an isolated step of the query leaves the block's view alone -/
theorem blockView_exec_Q (w : W) (s : Step) (hs : s.isolated = true) (h : Sep w) :
    blockView (exec .Q w s) = blockView w ∧ Sep (exec .Q w s) := by
  obtain ⟨hp, hh, hq⟩ := h
  cases s with
  | privateNew => exact ⟨rfl, hp, hh, nofun⟩
  | bankOther a d => exact ⟨rfl, hp, hh, hq⟩
  | evmAdd a d | flush =>
    -- through the query's handle, which never designates the block's StateDB: only the query's own fields are written
    obtain ⟨sT, sQ, dT, dQ, ptr, hT, hQ⟩ := w
    rcases hQ with _ | _ | _
    · exact ⟨rfl, hp, hh, hq⟩
    · exact absurd rfl hq
    · exact ⟨rfl, hp, hh, hq⟩
  | _ => cases hs

theorem blockView_runAlone (ts : List Step) (w : W) (h : Sep w) : blockView (runAlone w ts) = runAlone (blockView w) ts := by
  induction ts generalizing w with
  | nil => rfl
  | cons t ts ih =>
    obtain ⟨e, h'⟩ := blockView_exec_T w t h
    exact (ih _ h').trans (congrArg (runAlone · ts) e)

theorem blockView_foldQ (qs : List Step) (hq : ∀ s ∈ qs, s.isolated = true) (w : W) (h : Sep w) :
    blockView (qs.foldl (exec .Q) w) = blockView w := by
  induction qs generalizing w with
  | nil => rfl
  | cons q qs ih =>
    obtain ⟨e, h'⟩ := blockView_exec_Q w q (hq q List.mem_cons_self) h
    exact (ih (fun s hs => hq s (List.mem_cons_of_mem _ hs)) _ h').trans e

/-- under every schedule, the block's view after the interleaved run is what the block thread alone makes of its view at the
    start -/
theorem blockView_run (w : W) (ts qs : List Step) (sched : List Bool) (hq : ∀ s ∈ qs, s.isolated = true) (h : Sep w) :
    blockView (run w ts qs sched) = runAlone (blockView w) ts := by
  fun_induction run w ts qs sched with
  | case1 w qs _ => exact blockView_foldQ qs hq w h
  | case2 w ts _ _ => exact blockView_runAlone ts w h
  | case3 w t ts q qs ih =>
    obtain ⟨e, h'⟩ := blockView_exec_T w t h
    exact (ih hq h').trans (congrArg (runAlone · ts) e)
  | case4 w t ts q qs bs ih =>
    obtain ⟨e, h'⟩ := blockView_exec_T w t h
    exact (ih hq h').trans (congrArg (runAlone · ts) e)
  | case5 w t ts q qs b bs _ ih =>
    obtain ⟨e, h'⟩ := blockView_exec_Q w q (hq q List.mem_cons_self) h
    exact (ih (fun s hs => hq s (List.mem_cons_of_mem _ hs)) h').trans (congrArg (runAlone · (t :: ts)) e)

/-- **C09 (isolated queries).** From a state in which no StateDB is published, for every block-thread program, every query whose
    steps are isolated (private StateDB, interpreter steps; plain reads) and EVERY interleaving of the two, the block commits
    exactly what it commits when it runs alone. -/
theorem C09_noninterference_partial (w : W) (h0 : w.ptr = none) (hT0 : w.hT = none) (hQ0 : w.hQ = none)
    (ts qs : List Step) (hq : ∀ s ∈ qs, s.isolated = true) (sched : List Bool) :
    (run w ts qs sched).storeT = (runAlone w ts).storeT := by
  have h : Sep w := ⟨by rw [h0]; nofun, by rw [hT0]; nofun, by rw [hQ0]; nofun⟩
  show (blockView (run w ts qs sched)).storeT = (blockView (runAlone w ts)).storeT
  rw [blockView_run w ts qs sched hq h, blockView_runAlone ts w h]

/-- **counterexample (eth_call reaching a bank-moving precompile).** Scheduled inside the block's transaction, the query's bank
    operation mirrors the balance it sees in ITS OWN branch into the block's StateDB, and the block commits it. -/
theorem C09_counterexample_ethcall_bank_precompile :
    (run genesis blockTx ethCallBank [true, true, false, false, false]).storeT 4 ≠ (runAlone genesis blockTx).storeT 4 := by
  simp [run, runAlone, blockTx, ethCallBank, genesis, exec, setHandle, setDb, setStore, store, db, handle, upd]

/-- **counterexample (Simulate of an Ethereum tx).** Scheduled inside the block's transaction, the simulation adopts the block's
    StateDB, commits it into the block's context and clears the pointer: the precompile's later bank operations are no longer
    mirrored and the final commit overwrites them. -/
theorem C09_counterexample_simulate_ethtx :
    (run genesis blockTx simulateEthTx [true, true, false, false, false, false]).storeT 5 ≠ (runAlone genesis blockTx).storeT 5 := by
  simp [run, runAlone, blockTx, simulateEthTx, genesis, exec, setHandle, setDb, setStore, store, db, handle, upd]

/-- **counterexample (between transactions).** A simulation that starts while no transaction is running publishes ITS StateDB; a
    block transaction that starts before the simulation returns adopts it and commits into the query's branch: the block's own
    context never sees the transaction. -/
theorem C09_counterexample_simulation_published_first :
    (run genesis blockTx simulateEthTx [false, true, true, true, true, true]).storeT 1 ≠ (runAlone genesis blockTx).storeT 1 := by
  simp [run, runAlone, blockTx, simulateEthTx, genesis, exec, setHandle, setDb, setStore, store, db, handle, upd]

/-- non-vacuity: an isolated query in the middle of the block's transaction -/
example : (run genesis blockTx [.privateNew, .evmAdd 2 50] [true, true, false, false]).storeT 2 = (runAlone genesis blockTx).storeT 2 :=
  congrFun (C09_noninterference_partial genesis rfl rfl rfl blockTx _ (by decide) _) 2

/-- **C09 (value-carrying eth_call into a precompile query).** The query moves value inside its private StateDB and the precompile
    entry flushes that StateDB into the query's own branch: under every interleaving the block commits what it commits alone. -/
theorem C09_value_carrying_precompile_query_isolated (sched : List Bool) :
    (run genesis blockTx ethCallValuePrecompileQuery sched).storeT = (runAlone genesis blockTx).storeT :=
  C09_noninterference_partial genesis rfl rfl rfl blockTx _ (by decide) sched

/-- **C09 (eth_call that runs `FunToken.sendToBank` of a coin-born mapping).** ERC20 burn in the private StateDB, the flush at the
    precompile entry, a bank operation on another denom: under every interleaving the block commits what it commits alone. -/
theorem C09_sendToBank_of_other_denom_query_isolated (sched : List Bool) :
    (run genesis blockTx ethCallSendToBankOther sched).storeT = (runAlone genesis blockTx).storeT :=
  C09_noninterference_partial genesis rfl rfl rfl blockTx _ (by decide) sched

/-! ### T1 (regenerated from x/evm/keeper/statedb.go and bank_extension.go on every run) -/

/-- every override of the `NibiruBankKeeper` mirrors a balance into the designated StateDB only under
    `findEtherBalanceChangeFromCoins(<the operation's coins>)`: bank operations on other denoms are not mirrored (`bankOther`) -/
theorem fact_C09_bank_sync_only_for_the_gas_token :
    Generated.bankSyncGuards =
      ["NibiruBankKeeper.BurnCoins: findEtherBalanceChangeFromCoins(coins)",
       "NibiruBankKeeper.DelegateCoins: findEtherBalanceChangeFromCoins(coins)",
       "NibiruBankKeeper.DelegateCoinsFromAccountToModule: findEtherBalanceChangeFromCoins(amt)",
       "NibiruBankKeeper.InputOutputCoins: findEtherBalanceChangeFromCoins(input.Coins)",
       "NibiruBankKeeper.InputOutputCoins: findEtherBalanceChangeFromCoins(output.Coins)",
       "NibiruBankKeeper.MintCoins: findEtherBalanceChangeFromCoins(coins)",
       "NibiruBankKeeper.SendCoins: findEtherBalanceChangeFromCoins(coins)",
       "NibiruBankKeeper.SendCoinsFromAccountToModule: findEtherBalanceChangeFromCoins(coins)",
       "NibiruBankKeeper.SendCoinsFromModuleToAccount: findEtherBalanceChangeFromCoins(coins)",
       "NibiruBankKeeper.SendCoinsFromModuleToModule: findEtherBalanceChangeFromCoins(coins)",
       "NibiruBankKeeper.UndelegateCoins: findEtherBalanceChangeFromCoins(coins)",
       "NibiruBankKeeper.UndelegateCoinsFromModuleToAccount: findEtherBalanceChangeFromCoins(amt)"] := rfl


/-- who publishes a StateDB in the process-wide pointer (`Keeper.NewStateDB`) and who builds a private one (`statedb.New`): the
    five state-machine entry points the programs of the model publish for — every one of them adopts a designated StateDB first and
    clears the pointer when it returns — and the query handlers, which never publish. A query handler or code running inside an
    execution (a precompile method, say) that called the publishing constructor would hand its StateDB to the next state-machine
    execution of the process (seeds C01-11, C06-15). -/
theorem fact_C09_who_publishes_a_statedb :
    Generated.publishingConstructorCallers =
      ["x/evm/keeper:Keeper.EthereumTx", "x/evm/keeper:Keeper.convertCoinToEvmBornCoin", "x/evm/keeper:Keeper.convertCoinToEvmBornERC20",
       "x/evm/keeper:Keeper.createFunTokenFromERC20", "x/evm/keeper:Keeper.deployERC20ForBankCoin"] ∧
    Generated.privateConstructorCallers =
      ["x/evm/keeper:Keeper.EstimateGasForEvmCallType", "x/evm/keeper:Keeper.EthCall", "x/evm/keeper:Keeper.NewStateDB",
       "x/evm/keeper:Keeper.TraceEthTxMsg", "x/evm/keeper:Keeper.TraceTx"] := ⟨rfl, rfl⟩

/-- `Keeper.SetAccBalance` — the write-back of a StateDB into its context, reached from `Commit` and from the intermediate flush at
    every precompile entry, in DeliverTx and in queries alike — reads the balance through the wrapper and performs every coin
    movement through the embedded `BaseKeeper` (`bk := k.Bank.BaseKeeper`): no write-back is mirrored into the StateDB that
    `Keeper.Bank.StateDB` designates.  This is what makes `flush` and `commit` of the model steps without a `bankAdd`. -/
theorem fact_C09_writeback_bypasses_the_wrapper :
    Generated.setAccBalanceBankCalls =
      ["k.Bank.GetBalance", "bk.MintCoins", "bk.SendCoinsFromModuleToAccount", "bk.SendCoinsFromAccountToModule", "bk.BurnCoins"] ∧
    Generated.setAccBalanceKeeperBindings = ["bk := k.Bank.BaseKeeper"] := ⟨rfl, rfl⟩

end Nibiru.Concurrency
