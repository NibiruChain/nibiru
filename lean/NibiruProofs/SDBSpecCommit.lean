/-
  SDBSpecCommit — what the reference's end-of-transaction write-back persists, per address, in both modes of go-ethereum's
  `StateDB.Finalise(deleteEmptyObjects bool)`: `GethSpec.commit` deletes an account that ends the transaction empty (EIP-161),
  `commitKeep` keeps it as an empty account.
  An address that is not materialised in the transaction is untouched; a materialised one that self-destructed (or, in the deleting
  mode, ended empty) is removed, its storage wiped if it self-destructed or was created in the transaction; any other gets its
  nonce, code and balance and, for every slot, the value the transaction state shows for it (`stateOf`).
  Both modes are instances of one step, `commitStepB`, with the switch as a parameter: everything is proved once, for that.
-/
import NibiruModel.GethSpec
import NibiruProofs.SDBCommit

namespace Nibiru.GethSpec
open Nibiru

theorem insertSortedNat_eq (l : List Nat) (x : Nat) : GethSpec.insertSortedNat l x = SDB.insertSortedNat l x := by
  induction l with
  | nil => rfl
  | cons y ys ih => simp only [GethSpec.insertSortedNat, SDB.insertSortedNat, ih]

theorem sortNat_eq (l : List Nat) : GethSpec.sortNat l = SDB.sortNat l := by
  have : GethSpec.insertSortedNat = SDB.insertSortedNat := funext fun l => funext fun x => insertSortedNat_eq l x
  unfold GethSpec.sortNat SDB.sortNat
  rw [this]

def writeSlots (a : Nat) (kvs : List (Nat × Nat)) (b : Base) : Base :=
  kvs.foldl (fun (acc : Base) kv => { acc with storage := AList.set acc.storage (a, kv.1) kv.2 }) b

def dead (o : Acc) : Bool := o.suicided || (o.nonce = 0 && o.balance = 0 && o.code = 0)

/-- one address of the write-back -/
def commitStep (objs : List (Nat × Acc)) (b : Base) (a : Nat) : Base :=
  match AList.find? objs a with
  | none => b
  | some o =>
    let wiped : Base := if o.suicided || o.fresh then { b with storage := b.storage.filter (fun e => e.1.1 ≠ a) } else b
    if o.suicided || (o.nonce = 0 && o.balance = 0 && o.code = 0) then { wiped with accts := AList.erase wiped.accts a }
    else writeSlots a o.storage.reverse { wiped with accts := AList.set wiped.accts a (o.nonce, o.code, o.balance) }

theorem commit_base (g : G) : (commit g).base = (sortNat (g.tx.objs.map (·.1))).foldl (commitStep g.tx.objs) g.base := rfl

/-- one address of the write-back with `deleteEmptyObjects = false` -/
def commitStepK (objs : List (Nat × Acc)) (b : Base) (a : Nat) : Base :=
  match AList.find? objs a with
  | none => b
  | some o =>
    let wiped : Base := if o.suicided || o.fresh then { b with storage := b.storage.filter (fun e => e.1.1 ≠ a) } else b
    if o.suicided then { wiped with accts := AList.erase wiped.accts a }
    else writeSlots a o.storage.reverse { wiped with accts := AList.set wiped.accts a (o.nonce, o.code, o.balance) }

def commitKeep (g : G) : G :=
  { base := (sortNat (g.tx.objs.map (·.1))).foldl (commitStepK g.tx.objs) g.base, tx := {}, snaps := [], next := 0 }

/-! ### both modes at once -/

/-- the account is removed from the state: `del` is go-ethereum's `deleteEmptyObjects` -/
def deadB (del : Bool) (o : Acc) : Bool := o.suicided || (del && (o.nonce = 0 && o.balance = 0 && o.code = 0))

/-- the storage of a self-destructed or re-created account is reset -/
def wipeIf (c : Bool) (a : Nat) (b : Base) : Base :=
  if c then { b with storage := b.storage.filter (fun e => e.1.1 ≠ a) } else b

/-- the account is removed, or written with the slots of the transaction -/
def writeAcc (del : Bool) (a : Nat) (o : Acc) (w : Base) : Base :=
  if deadB del o then { w with accts := AList.erase w.accts a }
  else writeSlots a o.storage.reverse { w with accts := AList.set w.accts a (o.nonce, o.code, o.balance) }

def commitStepB (del : Bool) (objs : List (Nat × Acc)) (b : Base) (a : Nat) : Base :=
  match AList.find? objs a with
  | none => b
  | some o => writeAcc del a o (wipeIf (o.suicided || o.fresh) a b)

theorem deadB_false (o : Acc) : deadB false o = o.suicided := Bool.or_false _

theorem deadB_iff (del : Bool) (o : Acc) :
    deadB del o = true ↔ o.suicided = true ∨ (del = true ∧ o.nonce = 0 ∧ o.balance = 0 ∧ o.code = 0) := by
  unfold deadB; simp [and_assoc]

/-- on an account that does not end empty the switch makes no difference -/
theorem deadB_of_not_empty (del : Bool) (o : Acc) (h : o.suicided = false → ¬ (o.nonce = 0 ∧ o.balance = 0 ∧ o.code = 0)) :
    deadB del o = o.suicided := by
  cases hs : o.suicided with
  | true => unfold deadB; rw [hs]; rfl
  | false =>
    rw [← Bool.not_eq_true, deadB_iff]
    exact fun e => h hs (e.resolve_left (by simp [hs])).2

theorem commitStep_eq : commitStep = commitStepB true := rfl

theorem commitStepK_eq : commitStepK = commitStepB false := by
  funext objs b a
  unfold commitStepK commitStepB writeAcc wipeIf
  simp only [deadB_false]

/-- the two modes differ only on accounts that end empty without having self-destructed -/
theorem commitStepK_eq_commitStep (objs : List (Nat × Acc)) (b : Base) (a : Nat)
    (h : ∀ o, AList.find? objs a = some o → o.suicided = false → ¬ (o.nonce = 0 ∧ o.balance = 0 ∧ o.code = 0)) :
    commitStepK objs b a = commitStep objs b a := by
  rw [commitStepK_eq, commitStep_eq]
  unfold commitStepB writeAcc
  cases hf : AList.find? objs a with
  | none => rfl
  | some o => simp only [deadB_of_not_empty _ o (h o hf)]

/-! ### slots -/

theorem writeSlots_accts (a : Nat) (kvs : List (Nat × Nat)) (b : Base) : (writeSlots a kvs b).accts = b.accts :=
  SDB.foldl_const (fun (acc : Base) (kv : Nat × Nat) => { acc with storage := AList.set acc.storage (a, kv.1) kv.2 })
    (fun (acc : Base) => acc.accts) (fun _ _ => rfl) kvs b

theorem writeSlots_slot_ne (a a' k : Nat) (kvs : List (Nat × Nat)) (b : Base) (h : a ≠ a') :
    (writeSlots a kvs b).slot a' k = b.slot a' k :=
  SDB.foldl_const (fun (acc : Base) (kv : Nat × Nat) => { acc with storage := AList.set acc.storage (a, kv.1) kv.2 })
    (fun (acc : Base) => acc.slot a' k)
    (fun acc _ => congrArg (·.getD 0) (AList.find?_set_ne acc.storage _ _ _ fun e => h (congrArg Prod.fst e))) kvs b

/-- writing the pairs in reverse order makes the FIRST pair of a key win — what `AList.find?` returns -/
theorem writeSlots_slot_rev (a k : Nat) (kvs : List (Nat × Nat)) (b : Base) :
    (writeSlots a kvs.reverse b).slot a k = (match AList.find? kvs k with | some v => v | none => b.slot a k) := by
  induction kvs with
  | nil => rfl
  | cons kv t ih =>
    obtain ⟨k0, v0⟩ := kv
    unfold writeSlots at ih ⊢
    rw [List.reverse_cons, List.foldl_append]
    unfold Base.slot at ih ⊢
    by_cases hk : k0 = k
    · subst hk
      simp only [List.foldl_cons, List.foldl_nil, AList.find?_set_self, Option.getD_some, AList.find?, if_true]
    · simp only [List.foldl_cons, List.foldl_nil, AList.find?, hk, if_false]
      rw [AList.find?_set_ne _ _ _ _ fun e => hk (congrArg Prod.snd e)]
      exact ih

/-! ### one step, seen from an address -/

def view (a : Nat) (b : Base) : Option (Nat × Nat × Int) × (Nat → Nat) := (AList.find? b.accts a, fun k => b.slot a k)

theorem view_wipeIf (c : Bool) (a a' : Nat) (b : Base) :
    view a' (wipeIf c a b) = (AList.find? b.accts a', fun k => if c = true ∧ a' = a then 0 else b.slot a' k) := by
  unfold wipeIf view Base.slot
  cases c with
  | false => simp
  | true =>
    simp only [if_true, true_and, SDB.find?_wiped]
    congr 1
    funext k
    split <;> rfl

theorem view_writeAcc_ne (del : Bool) (a a' : Nat) (o : Acc) (w : Base) (h : a ≠ a') : view a' (writeAcc del a o w) = view a' w := by
  unfold writeAcc view
  split
  · rw [AList.find?_erase_ne _ _ _ h]; rfl
  · simp only [writeSlots_accts, writeSlots_slot_ne _ _ _ _ _ h]
    rw [AList.find?_set_ne _ _ _ _ h]; rfl

theorem view_writeAcc_self (del : Bool) (a : Nat) (o : Acc) (w : Base) :
    view a (writeAcc del a o w) =
      if deadB del o then (none, fun k => w.slot a k)
      else (some (o.nonce, o.code, o.balance), fun k => match AList.find? o.storage k with | some v => v | none => w.slot a k) := by
  unfold writeAcc view
  split
  · rw [AList.find?_erase_self]; rfl
  · simp only [writeSlots_accts, writeSlots_slot_rev]
    rw [AList.find?_set_self]; rfl

theorem commitStepB_frame (del : Bool) (objs : List (Nat × Acc)) (a : Nat) (b : Base) (a' : Nat) (h : a' ≠ a) :
    view a (commitStepB del objs b a') = view a b := by
  unfold commitStepB
  cases AList.find? objs a' with
  | none => rfl
  | some o =>
    simp only
    rw [view_writeAcc_ne del a' a o _ h, view_wipeIf]
    simp only [h.symm, and_false, if_false]
    rfl

/-- what the step at a materialised address leaves there, over any base: nothing if the account is removed (its old slots stay
    unless it self-destructed or was created in the transaction), else the account with, in every slot, the value the transaction
    state shows -/
theorem commitStepB_at (del : Bool) (objs : List (Nat × Acc)) (a : Nat) (b : Base) (o : Acc) (ho : AList.find? objs a = some o) :
    view a (commitStepB del objs b a) =
      (if deadB del o then none else some (o.nonce, o.code, o.balance),
       fun k => if deadB del o then (if o.suicided || o.fresh then 0 else b.slot a k)
         else match AList.find? o.storage k with
           | some v => v
           | none => if o.fresh then 0 else b.slot a k) := by
  unfold commitStepB
  rw [ho]
  simp only
  rw [view_writeAcc_self]
  have hw : ∀ k, (wipeIf (o.suicided || o.fresh) a b).slot a k = if o.suicided || o.fresh then 0 else b.slot a k := fun k =>
    (congrFun (congrArg Prod.snd (view_wipeIf _ a a b)) k).trans (by simp only [and_true])
  cases hd : deadB del o with
  | true => simp only [if_true, hw]
  | false =>
    have hs : o.suicided = false := by
      cases h : o.suicided with
      | false => rfl
      | true => rw [deadB, h] at hd; cases hd
    simp only [Bool.false_eq_true, if_false, hw]
    simp only [hs, Bool.false_or]

/-! ### the whole write-back -/

/-- the base after the write-back in mode `del` -/
def commitB (del : Bool) (g : G) : Base := (sortNat (g.tx.objs.map (·.1))).foldl (commitStepB del g.tx.objs) g.base

theorem commitKeep_eq (g : G) : (commitKeep g).base = commitB false g := by
  unfold commitKeep commitB; rw [commitStepK_eq]

theorem commitB_untouched (del : Bool) (g : G) (a : Nat) (h : AList.find? g.tx.objs a = none) :
    view a (commitB del g) = view a g.base :=
  SDB.foldl_notin _ (view a) a (commitStepB_frame del g.tx.objs a) _ _
    (by rw [sortNat_eq, SDB.mem_sortNat]; exact (SDB.find?_none_iff g.tx.objs a).mp h)

theorem commitB_at (del : Bool) (g : G) (a : Nat) (o : Acc) (h : AList.find? g.tx.objs a = some o) :
    view a (commitB del g) =
      (if deadB del o then none else some (o.nonce, o.code, o.balance),
       fun k => if deadB del o then (if o.suicided || o.fresh then 0 else g.base.slot a k) else stateOf g a o k) := by
  unfold commitB
  rw [sortNat_eq, SDB.foldl_at _ (view a) a (commitStepB_frame del g.tx.objs a) _ g.base
    (fun acc' e => by
      have : ∀ k, acc'.slot a k = g.base.slot a k := fun k => congrFun (congrArg Prod.snd e) k
      simp only [commitStepB_at del _ a _ o h, this])
    (SDB.sortNat_nodup _) ((SDB.mem_sortNat _ _).mpr (SDB.mem_keys_of_find h)), commitStepB_at del _ a _ o h]
  rfl

theorem commit_untouched (g : G) (a : Nat) (h : AList.find? g.tx.objs a = none) : view a (commit g).base = view a g.base :=
  commitB_untouched true g a h

theorem commit_at (g : G) (a : Nat) (o : Acc) (h : AList.find? g.tx.objs a = some o) :
    view a (commit g).base =
      (if dead o then none else some (o.nonce, o.code, o.balance),
       fun k => if dead o then (if o.suicided || o.fresh then 0 else g.base.slot a k) else stateOf g a o k) :=
  commitB_at true g a o h

theorem commitKeep_untouched (g : G) (a : Nat) (h : AList.find? g.tx.objs a = none) :
    view a (commitKeep g).base = view a g.base := by
  rw [commitKeep_eq]; exact commitB_untouched false g a h

theorem commitKeep_at (g : G) (a : Nat) (o : Acc) (h : AList.find? g.tx.objs a = some o) :
    view a (commitKeep g).base =
      (if o.suicided then none else some (o.nonce, o.code, o.balance), fun k => if o.suicided then 0 else stateOf g a o k) := by
  rw [commitKeep_eq, commitB_at false g a o h, deadB_false]
  cases o.suicided <;> rfl

/-- the two modes leave the same at an address unless the account there ended the transaction empty without self-destructing -/
theorem commit_eq_commitKeep_at (g : G) (a : Nat)
    (h : ∀ o, AList.find? g.tx.objs a = some o → o.suicided = false → ¬ (o.nonce = 0 ∧ o.balance = 0 ∧ o.code = 0)) :
    view a (commit g).base = view a (commitKeep g).base := by
  cases ho : AList.find? g.tx.objs a with
  | none => rw [commit_untouched g a ho, commitKeep_untouched g a ho]
  | some o =>
    have hd : dead o = o.suicided := deadB_of_not_empty true o (h o ho)
    rw [commit_at g a o ho, commitKeep_at g a o ho, hd]
    cases o.suicided <;> rfl

end Nibiru.GethSpec
