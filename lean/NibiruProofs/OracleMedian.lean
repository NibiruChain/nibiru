/-
  Lemmas for C10 and C12: sums of powers over a ballot, and the weighted-median scan over a rate-sorted ballot.
-/
import NibiruModel.Oracle
namespace Nibiru.Oracle

theorem sumInts_append (a b : List Int) : sumInts (a ++ b) = sumInts a + sumInts b := by
  induction a with
  | nil => simp [sumInts]
  | cons x xs ih => simp [sumInts, ih]; omega

theorem sumInts_perm {a b : List Int} (h : a.Perm b) : sumInts a = sumInts b := by
  induction h with
  | nil => rfl
  | cons x _ ih => simp [sumInts, ih]
  | swap x y l => simp [sumInts]; omega
  | trans _ _ ih1 ih2 => rw [ih1, ih2]

theorem sumInts_nonneg (l : List Int) (h : ∀ x ∈ l, 0 ≤ x) : 0 ≤ sumInts l := by
  induction l with
  | nil => exact Int.le_refl 0
  | cons x xs ih =>
    have := h x List.mem_cons_self
    have := ih (fun y hy => h y (List.mem_cons_of_mem _ hy))
    simp only [sumInts]; omega

/-- total power of the votes whose rate satisfies `p` -/
def powerWhere (p : Int → Bool) (l : List BVote) : Int := sumInts ((l.filter (fun v => p v.rate)).map (·.power))

theorem powerWhere_perm (p : Int → Bool) {a b : List BVote} (h : a.Perm b) : powerWhere p a = powerWhere p b :=
  sumInts_perm ((h.filter _).map _)

theorem powerWhere_cons (p : Int → Bool) (v : BVote) (l : List BVote) :
    powerWhere p (v :: l) = (if p v.rate then v.power else 0) + powerWhere p l := by
  unfold powerWhere
  by_cases h : p v.rate <;> simp [List.filter, h, sumInts]

theorem ballotPower_cons (v : BVote) (l : List BVote) : ballotPower (v :: l) = v.power + ballotPower l := rfl

theorem ballotPower_perm {a b : List BVote} (h : a.Perm b) : ballotPower a = ballotPower b :=
  sumInts_perm (h.map _)

def NonnegPowers (l : List BVote) : Prop := ∀ v ∈ l, 0 ≤ v.power

theorem NonnegPowers_perm {a b : List BVote} (h : a.Perm b) (hb : NonnegPowers b) : NonnegPowers a :=
  fun v hv => hb v (h.subset hv)

theorem powerWhere_mono {p q : Int → Bool} (hpq : ∀ r, p r = true → q r = true) (l : List BVote) (h : NonnegPowers l) :
    powerWhere p l ≤ powerWhere q l := by
  induction l with
  | nil => exact Int.le_refl _
  | cons v vs ih =>
    rw [powerWhere_cons, powerWhere_cons]
    have h1 := h v List.mem_cons_self
    have h2 := ih (fun x hx => h x (List.mem_cons_of_mem _ hx))
    have : (if p v.rate then v.power else 0) ≤ if q v.rate then v.power else 0 := by
      cases hp : p v.rate
      · rw [if_neg Bool.false_ne_true]; split <;> omega
      · rw [hpq _ hp]; exact Int.le_refl _
    omega

theorem powerWhere_true (l : List BVote) : powerWhere (fun _ => true) l = ballotPower l := by
  unfold powerWhere ballotPower
  rw [List.filter_eq_self.mpr (fun _ _ => rfl)]

theorem powerWhere_nonneg (p : Int → Bool) (l : List BVote) (h : NonnegPowers l) : 0 ≤ powerWhere p l :=
  sumInts_nonneg _ (fun x hx => by
    obtain ⟨v, hv, rfl⟩ := List.mem_map.mp hx
    exact h v (List.mem_filter.mp hv).1)

theorem powerWhere_le_total (p : Int → Bool) (l : List BVote) (h : NonnegPowers l) : powerWhere p l ≤ ballotPower l :=
  powerWhere_true l ▸ powerWhere_mono (fun _ _ => rfl) l h

theorem ballotPower_nonneg (l : List BVote) (h : NonnegPowers l) : 0 ≤ ballotPower l :=
  powerWhere_true l ▸ powerWhere_nonneg _ l h

theorem powerWhere_eq_zero (p : Int → Bool) (l : List BVote) (h : ∀ v ∈ l, p v.rate = false) : powerWhere p l = 0 := by
  unfold powerWhere
  rw [List.filter_eq_nil_iff.mpr (fun v hv => by simp [h v hv])]; rfl

theorem powerWhere_split (l : List BVote) (m : Int) :
    powerWhere (fun r => decide (r ≤ m)) l + powerWhere (fun r => decide (m < r)) l = ballotPower l := by
  induction l with
  | nil => rfl
  | cons v vs ih =>
    rw [powerWhere_cons, powerWhere_cons, ballotPower_cons]
    by_cases h : v.rate ≤ m
    · simp [h, Int.not_lt.mpr h]; omega
    · simp [h, Int.not_le.mp h]; omega

def Sorted (l : List BVote) : Prop := l.Pairwise (fun a b => a.rate ≤ b.rate)

theorem Sorted.head_le {v x : BVote} {vs : List BVote} (h : Sorted (v :: vs)) (hx : x ∈ v :: vs) : v.rate ≤ x.rate := by
  rcases List.mem_cons.mp hx with rfl | hx
  · exact Int.le_refl _
  · exact (List.pairwise_cons.mp h).1 x hx

/-- `m` splits the ballot at `half`: the votes strictly below `m` carry less than `half`, those up to `m` reach it (the lower
    weighted median when `half` is half the total). Both sides are `powerWhere`, so the order of the votes plays no part. -/
structure Splits (half : Int) (l : List BVote) (m : Int) : Prop where
  below : powerWhere (fun r => decide (r < m)) l < half
  reach : half ≤ powerWhere (fun r => decide (r ≤ m)) l

theorem Splits.perm {half : Int} {a b : List BVote} {m : Int} (hp : a.Perm b) (h : Splits half a m) : Splits half b m :=
  ⟨powerWhere_perm _ hp ▸ h.below, powerWhere_perm _ hp ▸ h.reach⟩

/-- with non-negative powers at most one integer splits a ballot: everything up to the smaller candidate lies strictly below the
    larger one -/
theorem Splits.unique {half : Int} {l : List BVote} {m₁ m₂ : Int} (hnn : NonnegPowers l)
    (h1 : Splits half l m₁) (h2 : Splits half l m₂) : m₁ = m₂ := by
  have key : ∀ {a b : Int}, Splits half l a → Splits half l b → ¬ a < b := fun {a b} ha hb hlt => by
    have := powerWhere_mono (p := fun r => decide (r ≤ a)) (q := fun r => decide (r < b)) (fun r hr => by simp at hr ⊢; omega) l hnn
    have := ha.reach; have := hb.below; omega
  have := key h1 h2; have := key h2 h1; omega

/-- The scan over a rate-sorted ballot, entered with a running sum `pivot` still short of `half` that the remaining votes make
    up: it stops at a vote of positive power whose rate splits the ballot at what was still missing. -/
theorem medianScan_spec (half : Int) (l : List BVote) (pivot : Int) (hs : Sorted l) (hnn : NonnegPowers l)
    (hp : pivot < half) (hreach : half ≤ pivot + ballotPower l) :
    (∃ v ∈ l, v.rate = medianScan half pivot l ∧ 0 < v.power) ∧ Splits (half - pivot) l (medianScan half pivot l) := by
  induction l generalizing pivot with
  | nil => exact absurd hreach (by simp [ballotPower, sumInts]; omega)
  | cons v vs ih =>
    have hsv := List.pairwise_cons.mp hs
    have hv0 := hnn v List.mem_cons_self
    have hnn' : NonnegPowers vs := fun x hx => hnn x (List.mem_cons_of_mem _ hx)
    rw [ballotPower_cons] at hreach
    unfold medianScan
    by_cases hhit : pivot + v.power ≥ half
    · -- no later vote is strictly below `v`
      have h0 := powerWhere_eq_zero (fun r => decide (r < v.rate)) vs (fun x hx => by have := hsv.1 x hx; simp; omega)
      have := powerWhere_nonneg (fun r => decide (r ≤ v.rate)) vs hnn'
      rw [if_pos hhit]
      refine ⟨⟨v, List.mem_cons_self, rfl, by omega⟩, ?_, ?_⟩ <;> rw [powerWhere_cons] <;> simp <;> omega
    · rw [if_neg hhit]
      obtain ⟨⟨w, hw, hwm, hwp⟩, hb, hr⟩ := ih (pivot + v.power) hsv.2 hnn' (by omega) (by omega)
      have hvw : v.rate ≤ medianScan half (pivot + v.power) vs := hwm ▸ hsv.1 w hw
      refine ⟨⟨w, List.mem_cons_of_mem _ hw, hwm, hwp⟩, ?_, ?_⟩ <;> rw [powerWhere_cons]
      · split <;> omega
      · simp [hvw]; omega

theorem medianScan_head (half pivot : Int) (v : BVote) (vs : List BVote) (h : half ≤ pivot + v.power) :
    medianScan half pivot (v :: vs) = v.rate := by
  simp [medianScan, h]

/-! ### the insertion sort used by the model produces a sorted permutation -/

theorem insertBy_perm {α : Type} (le : α → α → Bool) (x : α) (l : List α) : (insertBy le x l).Perm (x :: l) := by
  induction l with
  | nil => exact List.Perm.refl _
  | cons y ys ih =>
    unfold insertBy
    split
    · exact List.Perm.refl _
    · exact (List.Perm.cons y ih).trans (List.Perm.swap x y ys)

theorem sortBy_perm {α : Type} (le : α → α → Bool) (l : List α) : (sortBy le l).Perm l := by
  induction l with
  | nil => exact List.Perm.refl _
  | cons x xs ih => exact (insertBy_perm le x _).trans (List.Perm.cons x ih)

theorem sortBallot_perm (l : List BVote) : (sortBallot l).Perm l := sortBy_perm _ l

theorem insertBy_sorted (x : BVote) (l : List BVote) (h : Sorted l) :
    Sorted (insertBy (fun a b => decide (a.rate ≤ b.rate)) x l) := by
  induction l with
  | nil => simp [insertBy, Sorted]
  | cons y ys ih =>
    have hy := List.pairwise_cons.mp h
    unfold insertBy
    by_cases hxy : x.rate ≤ y.rate
    · simp only [hxy, decide_true, if_true]
      exact List.pairwise_cons.mpr ⟨fun a ha => by
        rcases List.mem_cons.mp ha with rfl | h1
        · exact hxy
        · exact Int.le_trans hxy (hy.1 a h1), h⟩
    · simp only [hxy, decide_false, Bool.false_eq_true, if_false]
      exact List.pairwise_cons.mpr ⟨fun a ha => by
        rcases List.mem_cons.mp ((insertBy_perm _ x ys).subset ha) with rfl | h1
        · omega
        · exact hy.1 a h1, ih hy.2⟩

theorem sortBallot_sorted (l : List BVote) : Sorted (sortBallot l) := by
  induction l with
  | nil => exact List.Pairwise.nil
  | cons x xs ih => exact insertBy_sorted x _ ih

/-! ### the published median -/

theorem weightedMedianSorted_spec (s : List BVote) (hs : Sorted s) (hnn : NonnegPowers s) (hT : 2 ≤ ballotPower s) :
    (∃ v ∈ s, v.rate = weightedMedianSorted s ∧ 0 < v.power) ∧ Splits (Int.tdiv (ballotPower s) 2) s (weightedMedianSorted s) := by
  have hh := Int.tdiv_eq_ediv_of_nonneg (show 0 ≤ ballotPower s by omega) (b := 2)
  have := medianScan_spec (Int.tdiv (ballotPower s) 2) s 0 hs hnn (by omega) (by omega)
  rwa [Int.sub_zero] at this

/-- **The weighted median.** The rate published for a ballot with non-negative powers totalling `T ≥ 2` is the rate of a vote of
    positive power and splits the ballot at ⌊T/2⌋. -/
theorem weightedMedian_spec (b : List BVote) (hnn : NonnegPowers b) (hT : 2 ≤ ballotPower b) :
    (∃ v ∈ b, v.rate = weightedMedian b ∧ 0 < v.power) ∧ Splits (Int.tdiv (ballotPower b) 2) b (weightedMedian b) := by
  have hp := sortBallot_perm b
  obtain ⟨⟨v, hv, hvm⟩, h⟩ := weightedMedianSorted_spec _ (sortBallot_sorted b) (NonnegPowers_perm hp hnn) (ballotPower_perm hp ▸ hT)
  exact ⟨⟨v, hp.subset hv, hvm⟩, ballotPower_perm hp ▸ h.perm hp⟩

/-- a vote without power moves neither the total nor any `powerWhere`, so whatever splits the ballot still does -/
theorem weightedMedian_cons_zero (b : List BVote) (a : BVote) (hnn : NonnegPowers b) (hT : 2 ≤ ballotPower b)
    (ha0 : a.power = 0) : weightedMedian (a :: b) = weightedMedian b := by
  have hnn' : NonnegPowers (a :: b) := fun x hx => by
    rcases List.mem_cons.mp hx with rfl | e
    · omega
    · exact hnn x e
  have hTa : ballotPower (a :: b) = ballotPower b := by rw [ballotPower_cons, ha0, Int.zero_add]
  have spa := (weightedMedian_spec (a :: b) hnn' (hTa ▸ hT)).2
  have spb := (weightedMedian_spec b hnn hT).2
  refine Splits.unique hnn' spa ⟨?_, ?_⟩ <;> rw [hTa, powerWhere_cons, ha0, ite_self, Int.zero_add]
  · exact spb.below
  · exact spb.reach

end Nibiru.Oracle
