/-
  C05 — EVM transactions conserve NIBI and charge exactly the gas used.
  Theorems about NibiruModel.EvmTx: fee deduction (VerifyFee/deductFee), RefundGas, value transfer, and the totals over all
  accounts and the fee collector.
-/
import NibiruProofs.EvmTxLemmas
import Generated.Facts
namespace Nibiru.EvmTx

theorem effPrice_ge_base (m : Msg) : baseFeeWei ≤ effPrice m := by
  unfold effPrice; split <;> exact Int.le_max_left ..

/-- floors of `y` and `y + z` by `D`: their difference is within one unit of `z` -/
theorem ediv_add_bounds (D y z : Int) (hD : 0 < D) (hy : 0 ≤ y) (hz : 0 ≤ z) :
    z - D < ((y + z) / D - y / D) * D ∧ ((y + z) / D - y / D) * D < z + D ∧
    0 ≤ y / D ∧ y / D ≤ (y + z) / D ∧ (y + z) / D * D ≤ y + z := by
  have h1 := Int.ediv_mul_le (y + z) (Int.ne_of_gt hD)
  have h2 := Int.lt_ediv_add_one_mul_self (y + z) hD
  have h3 := Int.ediv_mul_le y (Int.ne_of_gt hD)
  have h4 := Int.lt_ediv_add_one_mul_self y hD
  rw [Int.add_mul, Int.one_mul] at h2 h4
  rw [Int.sub_mul]
  generalize (y + z) / D * D = a at *
  generalize y / D * D = b at *
  exact ⟨by omega, by omega, Int.ediv_nonneg hy (Int.le_of_lt hD), Int.ediv_le_ediv hD (by omega), h1⟩

/-- **Net gas payment.** With `F = ⌊L·p/10^12⌋` charged up front and `R = ⌊(L−U)·p/10^12⌋` refunded (p = effective price in wei,
    U ≤ L the gas used), the signer's net payment `F − R` satisfies
    `U·p − 10^12 < (F − R)·10^12 < U·p + 10^12`, `0 ≤ R ≤ F` and `F·10^12 ≤ L·p`: within one unibi of gasUsed × price, never
    more than gasLimit × price. -/
theorem C05_net_fee_bounds (m : Msg) (hU : m.gasUsed ≤ m.gasLimit) :
    let p := effPrice m
    let F := anteFee m
    let R := refund m
    (m.gasUsed : Int) * p - weiPerUnibi < (F - R) * weiPerUnibi ∧ (F - R) * weiPerUnibi < (m.gasUsed : Int) * p + weiPerUnibi ∧
    0 ≤ R ∧ R ≤ F ∧ F * weiPerUnibi ≤ p * (m.gasLimit : Int) := by
  intro p F R
  have hp : 0 ≤ p := Int.le_trans (by decide) (effPrice_ge_base m)
  have hy : (0 : Int) ≤ p * ((m.gasLimit : Int) - m.gasUsed) := Int.mul_nonneg hp (by omega)
  have hz : (0 : Int) ≤ (m.gasUsed : Int) * p := Int.mul_nonneg (by omega) hp
  have hsplit : p * (m.gasLimit : Int) = p * ((m.gasLimit : Int) - m.gasUsed) + (m.gasUsed : Int) * p := by
    rw [Int.mul_sub, Int.mul_comm (m.gasUsed : Int) p]; omega
  -- both quotients are of non-negative numbers, where Go's truncating `Quo` is the floor
  have hF : F = (p * (m.gasLimit : Int)) / weiPerUnibi := Int.tdiv_eq_ediv_of_nonneg (hsplit ▸ Int.add_nonneg hy hz)
  have hR : R = (p * ((m.gasLimit : Int) - m.gasUsed)) / weiPerUnibi := Int.tdiv_eq_ediv_of_nonneg hy
  rw [hF, hR, hsplit]
  exact ediv_add_bounds weiPerUnibi _ _ (by decide) hy hz

/-! ### conservation -/

/-- total unibi held by the accounts `accts` and the fee collector -/
def total (s : State) (accts : List String) : Int := sumInts (accts.map (getBal s)) + s.collector

/-- writing `v` to account `a` changes the sum over a duplicate-free list by `v - old` if `a` is in it, and not otherwise -/
theorem sum_update (f f' : String → Int) (a : String) (v : Int) (hf : ∀ b, f' b = if a = b then v else f b)
    (l : List String) (hnd : l.Nodup) : sumInts (l.map f') = sumInts (l.map f) + if a ∈ l then v - f a else 0 := by
  induction l with
  | nil => rfl
  | cons x xs ih =>
    obtain ⟨hx, hnd⟩ := List.nodup_cons.mp hnd
    simp only [List.map_cons, sumInts, ih hnd, hf x, List.mem_cons]
    by_cases hax : a = x
    · subst hax; simp only [hx, if_true, if_false, true_or]; omega
    · simp only [hax, if_false, false_or]; omega

/-- a state that differs from `s` in the balance of one listed account and in the collector -/
theorem total_update (s s' : State) (a : String) (v : Int) (accts : List String) (hnd : accts.Nodup) (ha : a ∈ accts)
    (hb : ∀ b, getBal s' b = if a = b then v else getBal s b) :
    total s' accts = total s accts + (v - getBal s a) + (s'.collector - s.collector) := by
  unfold total
  rw [sum_update (getBal s) (getBal s') a v hb accts hnd, if_pos ha]; omega

theorem total_moveValue (s : State) (m : Msg) (accts : List String) (hnd : accts.Nodup) (ha : m.sender ∈ accts) (hb : m.to ∈ accts) :
    total (moveValue s m) accts = total s accts := by
  unfold moveValue
  split
  · rw [total_update _ _ m.to _ accts hnd hb (getBal_setBal _ _ · _), total_update s _ m.sender _ accts hnd ha (getBal_setBal _ _ · _)]
    simp only [collector_setBal]; omega
  · rfl

theorem total_payRefund (s : State) (m : Msg) (accts : List String) (hnd : accts.Nodup) (ha : m.sender ∈ accts) :
    total (payRefund s m) accts = total s accts := by
  rw [total_update s _ m.sender _ accts hnd ha (getBal_payRefund s m), collector_payRefund]; omega

theorem total_payFee (s : State) (m : Msg) (accts : List String) (hnd : accts.Nodup) (ha : m.sender ∈ accts) :
    total (payFee s m) accts = total s accts := by
  rw [total_update s _ m.sender _ accts hnd ha (getBal_payFee s m), collector_payFee]; omega

theorem total_execMsgs (s s' : State) (ms : List Msg) (accts : List String) (hnd : accts.Nodup)
    (hm : ∀ m ∈ ms, m.sender ∈ accts ∧ m.to ∈ accts) (h : execMsgs s ms = some s') : total s' accts = total s accts := by
  induction ms generalizing s with
  | nil => cases h; rfl
  | cons m ms ih =>
    unfold execMsgs at h
    cases hx : execMsg s m with
    | none => rw [hx] at h; cases h
    | some s1 =>
      rw [hx] at h
      obtain ⟨h1, h2⟩ := hm m List.mem_cons_self
      rw [ih s1 (fun x hx' => hm x (List.mem_cons_of_mem _ hx')) h, (execMsg_some s s1 m hx).1, total_payRefund _ m accts hnd h1,
        total_moveValue _ m accts hnd h1 h2]
      rfl

theorem total_passGas (s s' : State) (ms : List Msg) (accts : List String) (hnd : accts.Nodup)
    (hm : ∀ m ∈ ms, m.sender ∈ accts) (h : passGas s ms = some s') : total s' accts = total s accts := by
  induction ms generalizing s with
  | nil => cases h; rfl
  | cons m ms ih =>
    rw [passGas_cons] at h
    have hrest := fun x hx => hm x (List.mem_cons_of_mem _ hx)
    split at h
    · exact ih s hrest h
    · rw [ih _ hrest (Option.ite_none_left_eq_some.mp h).2, total_payFee s m accts hnd (hm m List.mem_cons_self)]

theorem total_ante (s s1 : State) (ms : List Msg) (accts : List String) (hnd : accts.Nodup)
    (hm : ∀ m ∈ ms, m.sender ∈ accts) (h : ante s ms = some s1) : total s1 accts = total s accts := by
  obtain ⟨_, _, sg, hg, hq⟩ := ante_some s s1 ms h
  obtain ⟨_, _, pb, pc, _⟩ := passSeq_spec sg s1 ms hq
  rw [← total_passGas s sg ms accts hnd hm hg]; unfold total; rw [pb, pc]

/-- **Conservation.** Whatever the tx does — accepted, rejected, failing, reverting, several messages, any prices and values —
    the unibi held by the involved accounts plus the fee collector is unchanged: fees move from signer to collector, refunds back,
    values from sender to recipient; nothing is created. (The supply itself is observed on the implementation by the
    correspondence run; mint/burn in `SetAccBalance` net to zero.) -/
theorem C05_conservation (s : State) (ms : List Msg) (accts : List String) (hnd : accts.Nodup)
    (hm : ∀ m ∈ ms, m.sender ∈ accts ∧ m.to ∈ accts) : total (deliver s ms).1 accts = total s accts := by
  have hd := deliver_cases s ms
  split at hd
  · rw [hd]
  · exact total_ante s _ ms accts hnd (fun m hmm => (hm m hmm).1) hd
  · obtain ⟨s1, ha, hx⟩ := hd
    exact (total_execMsgs s1 _ ms accts hnd hm hx).trans (total_ante s s1 ms accts hnd (fun m hmm => (hm m hmm).1) ha)

/-! ### single-message transactions: who pays what -/

/-- the ante handler on a single message: the fee moves from the signer to the collector, and the signer can pay it -/
theorem ante_single (s s1 : State) (m : Msg) (h : ante s [m] = some s1) :
    (∀ a, getBal s1 a = if m.sender = a then getBal s a - anteFee m else getBal s a) ∧
    s1.collector = s.collector + anteFee m ∧ anteFee m ≤ getBal s m.sender := by
  obtain ⟨_, hva, sg, hg, hq⟩ := ante_some s s1 [m] h
  obtain ⟨_, _, pb, pc, _⟩ := passSeq_spec sg s1 [m] hq
  rw [pb, pc]
  rw [passGas_cons] at hg
  split at hg
  · -- a zero fee: nothing moves; the balance is non-negative because it covers the (non-negative) cost
    rename_i hz
    simp only [passVerifyAcc, List.all_cons, List.all_nil, Bool.and_true, Bool.and_eq_true, decide_eq_true_eq] at hva
    cases hg
    refine ⟨fun a => by rw [hz]; split <;> omega, by rw [hz]; omega, ?_⟩
    unfold nativeToWei weiPerUnibi at hva; omega
  · simp only [passGas, Option.ite_none_left_eq_some, Option.some.injEq] at hg
    obtain ⟨hlt, rfl⟩ := hg
    refine ⟨fun a => ?_, rfl, by omega⟩
    rw [getBal_payFee]
    split
    · rename_i e; rw [e]
    · rfl

/-- **A failing tx changes nothing except the fee payment and the signer's nonce.** When the message returns an error after the
    tx was admitted, the committed state is the ante state: the signer paid `F` to the fee collector, its sequence advanced, and
    no other balance moved. -/
theorem C05_failed_tx_only_fee_and_nonce (s : State) (m : Msg) (h : (deliver s [m]).2 = .execFailed) :
    (∀ a, getBal (deliver s [m]).1 a = if m.sender = a then getBal s a - anteFee m else getBal s a) ∧
    (deliver s [m]).1.collector = s.collector + anteFee m ∧
    (∀ a, getSeq (deliver s [m]).1 a = getSeq s a + countOf a [m]) := by
  have ha := deliver_cases s [m]
  rw [h] at ha
  exact ⟨(ante_single s _ m ha).1, (ante_single s _ m ha).2.1, (deliver_spec s [m] (by rw [h]; nofun)).2.2.1⟩

/-- **A reverted (VM error) tx, and any tx without value: the fee collector's gain equals the signer's net payment `F − R`,** and
    no other account changes. -/
theorem C05_collector_gain_eq_signer_payment (s : State) (m : Msg) (h : (deliver s [m]).2 = .ok)
    (hnv : m.kind = .revert ∨ weiToNative m.value ≤ 0) :
    (deliver s [m]).1.collector - s.collector = anteFee m - refund m ∧
    getBal s m.sender - getBal (deliver s [m]).1 m.sender = anteFee m - refund m ∧
    ∀ a, a ≠ m.sender → getBal (deliver s [m]).1 a = getBal s a := by
  have hd := deliver_cases s [m]
  rw [h] at hd
  obtain ⟨s1, ha, hx⟩ := hd
  obtain ⟨b1, b2, _⟩ := ante_single s s1 m ha
  simp only [execMsgs] at hx
  cases hm : execMsg s1 m with
  | none => rw [hm] at hx; cases hx
  | some s2 =>
    rw [hm, Option.some.injEq] at hx
    -- no value moves: the run reverted, or the value is below one unibi
    have hmv : moveValue (setSeq s1 m.sender (m.nonce + 1)) m = setSeq s1 m.sender (m.nonce + 1) := by
      unfold moveValue
      rcases hnv with hk | hv
      · simp [hk]
      · have : ¬ (weiToNative m.value > 0) := by omega
        simp [this]
    rw [← hx, (execMsg_some s1 s2 m hm).1, hmv]
    simp only [collector_payRefund, getBal_payRefund, collector_setSeq, getBal_setSeq, b1, b2, if_true]
    exact ⟨by omega, by omega, fun a hne => by rw [if_neg (Ne.symm hne), if_neg (Ne.symm hne)]⟩

/-! ### T1: the mirror only exists for accounts that have an EVM counterpart -/

/-- `SyncStateDBWithAccount` writes the bank balance of `acc` into the StateDB under `NibiruAddrToEthAddr(acc)`, which keeps the LAST
    20 bytes of the address. The model's accounts are the 20-byte ones (one name on both sides); for any other address — a Wasm
    contract's is 32 bytes long — the function has to leave the StateDB alone, or the balance is mirrored into, and at `Commit` minted
    to, an unrelated 20-byte account (fix: commit in /repo; found by the `evmsupply` run: Wasm `execute` with unibi funds to a
    contract that keeps them raised the supply by the funds). -/
theorem fact_C05_sync_only_for_addresses_with_an_evm_counterpart :
    Generated.syncStateDBEarlyReturns = ["bk.StateDB == nil", "len(acc) != gethcommon.AddressLength"] := rfl

end Nibiru.EvmTx
