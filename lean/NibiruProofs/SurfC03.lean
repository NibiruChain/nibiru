/-
  SurfC03 — GENERATED by bin/pin-surface (a developer tool) on the tree the models were written against; committed.
  The fingerprints of the functions property C03's model was written from (lib/surface.json) as they were then; the
  extractor recomputes them from /repo on every run (Generated.surface_C03).  A difference means that a modelled function
  changed structurally: the hand-written model is then no longer known to describe it, the obligation breaks and the check
  searches for a failing input (DESIGN §3, T1-S).
-/
import Generated.Facts

namespace Nibiru.Surface

def expected_C03 : List (String × String) := [
  ("x/evm/chain_config.go:EthereumConfig", "57ce393473ab26f5"),
  ("x/evm/chain_config.go:Validate", "868fbe06ae2302ec"),
  ("x/evm/const.go:NativeToWei", "95c2b5c4fe4d6420"),
  ("x/evm/const.go:WeiToNative", "6b693ebb5ac3ce08"),
  ("x/evm/keeper/gas_fees.go:gasToRefund", "a90991e9b4055041"),
  ("x/evm/keeper/msg_server.go:Keeper.ApplyEvmMsg", "7ca606433c5e3fc4"),
  ("x/evm/keeper/statedb.go:Keeper.DeleteAccount", "55444b6d1b75c166"),
  ("x/evm/keeper/statedb.go:Keeper.ForEachStorage", "32470b2c4c9d3677"),
  ("x/evm/keeper/statedb.go:Keeper.GetAccount", "b6bf1ae760d5acd3"),
  ("x/evm/keeper/statedb.go:Keeper.GetCode", "163831ba038a22c2"),
  ("x/evm/keeper/statedb.go:Keeper.SetAccBalance", "65c00e6bf4f06eb5"),
  ("x/evm/keeper/statedb.go:Keeper.SetAccount", "ad98931ec0106cd3"),
  ("x/evm/keeper/statedb.go:Keeper.SetCode", "d3263f629b7c5002"),
  ("x/evm/keeper/statedb.go:Keeper.SetState", "651fba93de3074a1"),
  ("x/evm/keeper/statedb.go:Keeper.getAccountWithoutBalance", "c82c12b12a4b8d9a"),
  ("x/evm/statedb/access_list.go:accessList.AddAddress", "34ad8caeda35ad90"),
  ("x/evm/statedb/access_list.go:accessList.AddSlot", "7838a352e976f6a5"),
  ("x/evm/statedb/access_list.go:accessList.Contains", "8516d568b37a4d09"),
  ("x/evm/statedb/access_list.go:accessList.ContainsAddress", "8c0114a7b312e3d7"),
  ("x/evm/statedb/access_list.go:accessList.DeleteAddress", "197c22798c582842"),
  ("x/evm/statedb/access_list.go:accessList.DeleteSlot", "1501c30582891f22"),
  ("x/evm/statedb/access_list.go:newAccessList", "a32a30212669afec"),
  ("x/evm/statedb/journal.go:PrecompileCalled.Dirtied", "0240933eace4f8e0"),
  ("x/evm/statedb/journal.go:PrecompileCalled.Revert", "59987db5ca4740f2"),
  ("x/evm/statedb/journal.go:accessListAddAccountChange.Dirtied", "ac57407f6a33f35b"),
  ("x/evm/statedb/journal.go:accessListAddAccountChange.Revert", "3755f1be13e09639"),
  ("x/evm/statedb/journal.go:accessListAddSlotChange.Dirtied", "df73eecec3babf2f"),
  ("x/evm/statedb/journal.go:accessListAddSlotChange.Revert", "d14c79e6da31ed23"),
  ("x/evm/statedb/journal.go:addLogChange.Dirtied", "4454d975c95520c7"),
  ("x/evm/statedb/journal.go:addLogChange.Revert", "b31f054b86d587c0"),
  ("x/evm/statedb/journal.go:balanceChange.Dirtied", "27b525f9cd2c5989"),
  ("x/evm/statedb/journal.go:balanceChange.Revert", "c3cf8b2e36bad222"),
  ("x/evm/statedb/journal.go:codeChange.Dirtied", "2a3a3346ce4fcd23"),
  ("x/evm/statedb/journal.go:codeChange.Revert", "8fc7b86b068fba39"),
  ("x/evm/statedb/journal.go:createObjectChange.Dirtied", "b17009f7339061ab"),
  ("x/evm/statedb/journal.go:createObjectChange.Revert", "db49a2df8188dbec"),
  ("x/evm/statedb/journal.go:journal.Length", "21e6f53bdb7fd250"),
  ("x/evm/statedb/journal.go:journal.Revert", "2a6b72e10cfa1f24"),
  ("x/evm/statedb/journal.go:journal.append", "b6c07a409014683f"),
  ("x/evm/statedb/journal.go:journal.sortedDirties", "08af02e94c797dc8"),
  ("x/evm/statedb/journal.go:newJournal", "ad97e1ee1f36cb34"),
  ("x/evm/statedb/journal.go:nonceChange.Dirtied", "503ea55d05a7b240"),
  ("x/evm/statedb/journal.go:nonceChange.Revert", "3386bf532b883019"),
  ("x/evm/statedb/journal.go:refundChange.Dirtied", "8d071ddcf20b06b1"),
  ("x/evm/statedb/journal.go:refundChange.Revert", "cc0c071a09caf624"),
  ("x/evm/statedb/journal.go:resetObjectChange.Dirtied", "9eb08f85c2b06ffc"),
  ("x/evm/statedb/journal.go:resetObjectChange.Revert", "b52614e1a5ecb8dd"),
  ("x/evm/statedb/journal.go:storageChange.Dirtied", "543c8eff0de7f56e"),
  ("x/evm/statedb/journal.go:storageChange.Revert", "14da9f59d370304c"),
  ("x/evm/statedb/journal.go:suicideChange.Dirtied", "fa2a94ecabfa69b5"),
  ("x/evm/statedb/journal.go:suicideChange.Revert", "42b871e09ad04881"),
  ("x/evm/statedb/state_object.go:Account.IsContract", "1a77780a0594fd8f"),
  ("x/evm/statedb/state_object.go:Account.ToWei", "cb39282578b0503b"),
  ("x/evm/statedb/state_object.go:AccountWei.ToNative", "12414a7fc733e182"),
  ("x/evm/statedb/state_object.go:NewEmptyAccount", "ecafda2678102d28"),
  ("x/evm/statedb/state_object.go:Storage.SortedKeys", "7696b04304ed9139"),
  ("x/evm/statedb/state_object.go:emptyCodeHash", "515f13738819d170"),
  ("x/evm/statedb/state_object.go:newObject", "85debb2fdeaad726"),
  ("x/evm/statedb/state_object.go:stateObject.AddBalance", "dc510306c94c3901"),
  ("x/evm/statedb/state_object.go:stateObject.Address", "a001af4336feaaa5"),
  ("x/evm/statedb/state_object.go:stateObject.Balance", "eff2061899690fae"),
  ("x/evm/statedb/state_object.go:stateObject.Code", "caef0544b1e3aa1a"),
  ("x/evm/statedb/state_object.go:stateObject.CodeHash", "11d0c5ccfb6cac66"),
  ("x/evm/statedb/state_object.go:stateObject.CodeSize", "323640c8a7544188"),
  ("x/evm/statedb/state_object.go:stateObject.GetCommittedState", "2a3f2523b6a627ca"),
  ("x/evm/statedb/state_object.go:stateObject.GetState", "6d1e22d2904c87a4"),
  ("x/evm/statedb/state_object.go:stateObject.Nonce", "3debfc6ae69de506"),
  ("x/evm/statedb/state_object.go:stateObject.SetBalance", "84d7defd80e34d91"),
  ("x/evm/statedb/state_object.go:stateObject.SetCode", "9fd3f5fd897ca1bd"),
  ("x/evm/statedb/state_object.go:stateObject.SetNonce", "8db7438aac20247a"),
  ("x/evm/statedb/state_object.go:stateObject.SetState", "0931ac22e3c52362"),
  ("x/evm/statedb/state_object.go:stateObject.SubBalance", "6722d0b7d49c2da0"),
  ("x/evm/statedb/state_object.go:stateObject.isEmpty", "1fdfcf9a4031ae52"),
  ("x/evm/statedb/state_object.go:stateObject.setBalance", "72c5de7b73073b19"),
  ("x/evm/statedb/state_object.go:stateObject.setCode", "b239733f5008beee"),
  ("x/evm/statedb/state_object.go:stateObject.setNonce", "d892368c34e2e2b2"),
  ("x/evm/statedb/state_object.go:stateObject.setState", "e488b8a452a27cc1"),
  ("x/evm/statedb/statedb.go:FromVM", "af192f8584a44abf"),
  ("x/evm/statedb/statedb.go:New", "5e594b4f582bdce5"),
  ("x/evm/statedb/statedb.go:StateDB.AddAddressToAccessList", "9de05dc62e105964"),
  ("x/evm/statedb/statedb.go:StateDB.AddBalance", "0eb14e274b7d281f"),
  ("x/evm/statedb/statedb.go:StateDB.AddLog", "9691eaaadf4274c1"),
  ("x/evm/statedb/statedb.go:StateDB.AddPreimage", "48ebd978e5d11cc9"),
  ("x/evm/statedb/statedb.go:StateDB.AddRefund", "0b42565789a49863"),
  ("x/evm/statedb/statedb.go:StateDB.AddSlotToAccessList", "c1ed8504b1eb1b95"),
  ("x/evm/statedb/statedb.go:StateDB.AddressInAccessList", "2ea4e6bf593323b4"),
  ("x/evm/statedb/statedb.go:StateDB.CacheCtxForPrecompile", "34a11d12b4a8730d"),
  ("x/evm/statedb/statedb.go:StateDB.Commit", "a8e7d08197cba9ef"),
  ("x/evm/statedb/statedb.go:StateDB.CommitCacheCtx", "f738a98987d3471b"),
  ("x/evm/statedb/statedb.go:StateDB.CreateAccount", "7873db92d87e6585"),
  ("x/evm/statedb/statedb.go:StateDB.Empty", "ee34d4342c5bc59f"),
  ("x/evm/statedb/statedb.go:StateDB.Exist", "2916d8adcf837c1c"),
  ("x/evm/statedb/statedb.go:StateDB.ForEachStorage", "c2c321ac560fc676"),
  ("x/evm/statedb/statedb.go:StateDB.GetBalance", "7f16f201d52a784c"),
  ("x/evm/statedb/statedb.go:StateDB.GetCacheContext", "4184cc6b9cd65660"),
  ("x/evm/statedb/statedb.go:StateDB.GetCode", "2ed9f869722dbcf8"),
  ("x/evm/statedb/statedb.go:StateDB.GetCodeHash", "224470203b6fa00d"),
  ("x/evm/statedb/statedb.go:StateDB.GetCodeSize", "ddd4750d74ae31e8"),
  ("x/evm/statedb/statedb.go:StateDB.GetCommittedState", "440f635852ba2768"),
  ("x/evm/statedb/statedb.go:StateDB.GetEvmTxContext", "f86b0b5d1ef22647"),
  ("x/evm/statedb/statedb.go:StateDB.GetNonce", "69b92a2c15229c94"),
  ("x/evm/statedb/statedb.go:StateDB.GetRefund", "7a7585a78b10602a"),
  ("x/evm/statedb/statedb.go:StateDB.GetState", "3721b64e542a5551"),
  ("x/evm/statedb/statedb.go:StateDB.HasSuicided", "69856ebe6f5be6ea"),
  ("x/evm/statedb/statedb.go:StateDB.Keeper", "f7f564fcb655d2d0"),
  ("x/evm/statedb/statedb.go:StateDB.Logs", "67afc8bb8deb2cd6"),
  ("x/evm/statedb/statedb.go:StateDB.PrepareAccessList", "d68907c57406a19d"),
  ("x/evm/statedb/statedb.go:StateDB.RevertToSnapshot", "5a1121f55a7fa4e3"),
  ("x/evm/statedb/statedb.go:StateDB.SavePrecompileCalledJournalChange", "2e9762e5899ca87e"),
  ("x/evm/statedb/statedb.go:StateDB.SetBalanceWei", "5664f8bff757de0d"),
  ("x/evm/statedb/statedb.go:StateDB.SetCode", "5c9fa861cda9bb3a"),
  ("x/evm/statedb/statedb.go:StateDB.SetNonce", "af88a29380665a04"),
  ("x/evm/statedb/statedb.go:StateDB.SetState", "8cc1d779af83cf61"),
  ("x/evm/statedb/statedb.go:StateDB.SlotInAccessList", "77494eb3e831f59b"),
  ("x/evm/statedb/statedb.go:StateDB.Snapshot", "b86f9ec29ea5a52d"),
  ("x/evm/statedb/statedb.go:StateDB.SubBalance", "415fdade39d92913"),
  ("x/evm/statedb/statedb.go:StateDB.SubRefund", "cc42403aab0c76f2"),
  ("x/evm/statedb/statedb.go:StateDB.Suicide", "cb4f9109bc697ba2"),
  ("x/evm/statedb/statedb.go:StateDB.commitCtx", "745cd81657edc9f7"),
  ("x/evm/statedb/statedb.go:StateDB.createObject", "2050d041361cfde5"),
  ("x/evm/statedb/statedb.go:StateDB.getOrNewStateObject", "4a9e5d0241a6d40e"),
  ("x/evm/statedb/statedb.go:StateDB.getStateObject", "dcd503dbeabbd56e"),
  ("x/evm/statedb/statedb.go:StateDB.setStateObject", "ee4f3fdaa6a4622b"),
  ("x/evm/statedb/statedb.go:errorf", "51e1a28d438593ad"),
  ("x/evm/statedb/statedb.go:maxMultistoreCacheCount", "b693e08b7dbc6511")]

/-- 125 declarations -/
theorem fact_C03_surface_fingerprints : Generated.surface_C03 = expected_C03 := rfl

end Nibiru.Surface
