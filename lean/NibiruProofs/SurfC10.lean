/-
  SurfC10 — GENERATED by bin/pin-surface (a developer tool) on the tree the models were written against; committed.
  The fingerprints of the functions property C10's model was written from (lib/surface.json) as they were then; the
  extractor recomputes them from /repo on every run (Generated.surface_C10).  A difference means that a modelled function
  changed structurally: the hand-written model is then no longer known to describe it, the obligation breaks and the check
  searches for a failing input (DESIGN §3, T1-S).
-/
import Generated.Facts

namespace Nibiru.Surface

def expected_C10 : List (String × String) := [
  ("x/oracle/abci.go:EndBlocker", "27431f5725b90f43"),
  ("x/oracle/keeper/ballot.go:Keeper.clearVotesAndPrevotes", "71bb1281cb8a5841"),
  ("x/oracle/keeper/ballot.go:Keeper.groupVotesByPair", "19705537d43822cb"),
  ("x/oracle/keeper/ballot.go:Keeper.removeInvalidVotes", "c238cdda756370bb"),
  ("x/oracle/keeper/ballot.go:Tally", "adafbc4d2a3bfd3e"),
  ("x/oracle/keeper/ballot.go:isPassingVoteThreshold", "301ac9d94b1e1624"),
  ("x/oracle/keeper/keeper.go:Keeper.SetPrice", "1809f5fbe4d5854f"),
  ("x/oracle/keeper/update_exchange_rates.go:Keeper.UpdateExchangeRates", "8c438cad469d679e"),
  ("x/oracle/keeper/update_exchange_rates.go:Keeper.clearExchangeRates", "862bc40e977a85c8"),
  ("x/oracle/keeper/update_exchange_rates.go:Keeper.getPairVotes", "0ecbe1a01f215767"),
  ("x/oracle/keeper/update_exchange_rates.go:Keeper.incrementAbstainsByOmission", "c1a58c6a31adaa7d"),
  ("x/oracle/keeper/update_exchange_rates.go:Keeper.incrementMissCounters", "0d7418354ebb5de8"),
  ("x/oracle/keeper/update_exchange_rates.go:Keeper.newValidatorPerformances", "1e9533a4e7679537"),
  ("x/oracle/keeper/update_exchange_rates.go:Keeper.tallyVotesAndUpdatePrices", "862dd1fd32be3bef"),
  ("x/oracle/keeper/whitelist.go:Keeper.GetWhitelistedPairs", "4f98021be551c2a1"),
  ("x/oracle/keeper/whitelist.go:Keeper.IsWhitelistedPair", "0b371a00b67e704d"),
  ("x/oracle/keeper/whitelist.go:Keeper.refreshWhitelist", "e69f8ae30f5573df"),
  ("x/oracle/types/ballot.go:ExchangeRateVotes.Len", "5621fa2ecf87d2d0"),
  ("x/oracle/types/ballot.go:ExchangeRateVotes.Less", "86f51d4e27b49705"),
  ("x/oracle/types/ballot.go:ExchangeRateVotes.NumValidVoters", "73c744664800490a"),
  ("x/oracle/types/ballot.go:ExchangeRateVotes.Power", "e77621dfd0d8a618"),
  ("x/oracle/types/ballot.go:ExchangeRateVotes.StandardDeviation", "1ba35bf275e96211"),
  ("x/oracle/types/ballot.go:ExchangeRateVotes.Swap", "fbfe8dded9a56b6b"),
  ("x/oracle/types/ballot.go:ExchangeRateVotes.ToCrossRate", "3c5d38ffdba2f2bd"),
  ("x/oracle/types/ballot.go:ExchangeRateVotes.ToMap", "813d40f4f4bf8cd0"),
  ("x/oracle/types/ballot.go:ExchangeRateVotes.WeightedMedian", "46d805420400007a"),
  ("x/oracle/types/ballot.go:ExchangeRateVotes.WeightedMedianWithAssertion", "a0c34a8b858e8547"),
  ("x/oracle/types/ballot.go:NewExchangeRateVote", "7acc5ce902a85ae9"),
  ("x/oracle/types/ballot.go:NewValidatorPerformance", "08780cfeb779402a"),
  ("x/oracle/types/ballot.go:ValidatorPerformance.String", "d3a20d701e23f06d"),
  ("x/oracle/types/ballot.go:ValidatorPerformances.String", "9b63433e83ce3746"),
  ("x/oracle/types/ballot.go:ValidatorPerformances.TotalRewardWeight", "0196d2a5af77814c"),
  ("x/oracle/types/core.go:IsPeriodLastBlock", "e63ab3c38919adf3")]

/-- 33 declarations -/
theorem fact_C10_surface_fingerprints : Generated.surface_C10 = expected_C10 := rfl

end Nibiru.Surface
