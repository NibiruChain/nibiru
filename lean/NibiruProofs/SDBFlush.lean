/-
  SDBFlush — a positive fact about the intermediate flush at a precompile entry (`OnRunStart`: cache context, journal entry,
  `CommitCacheCtx`): when the precompile itself has no side effect (a query method) and nothing is reverted afterwards, the flush does
  not change what the transaction commits.  The final `Commit` writes the cache context back and flushes AGAIN over objects whose
  `OriginStorage` the first flush advanced: every dirty slot now equals its origin, so the second flush writes nothing new.
  (What goes wrong when a frame around such a call IS reverted is the subject of the C04 counterexamples.)
-/
import NibiruProofs.SDBOrder
import NibiruProofs.SDBTx

namespace Nibiru.SDB
open Nibiru

/-- two stores hold the same EVM accounts and slots -/
def StoreExt (st st' : Store) : Prop := (∀ a, st.acct a = st'.acct a) ∧ (∀ a k, st.slot a k = st'.slot a k)

theorem StoreExt.refl (st : Store) : StoreExt st st := ⟨fun _ => rfl, fun _ _ => rfl⟩
theorem StoreExt.trans {a b c : Store} (h1 : StoreExt a b) (h2 : StoreExt b c) : StoreExt a c :=
  ⟨fun x => (h1.1 x).trans (h2.1 x), fun x k => (h1.2 x k).trans (h2.2 x k)⟩
theorem StoreExt.symm {a b : Store} (h : StoreExt a b) : StoreExt b a := ⟨fun x => (h.1 x).symm, fun x k => (h.2 x k).symm⟩

/-! ### the flushed object -/

/-- after the flush every dirty slot's value IS its cached origin (read with the code's default 0) -/
theorem flushObj_origin_of_dirty (st : Store) (a : Nat) (o : Obj) (k v : Nat) (hd : AList.find? o.dirty k = some v) :
    (AList.find? (flushObj st a o).2.origin k).getD 0 = v := by
  rw [show AList.find? (flushObj st a o).2.origin k = _ from congrArg Prod.snd (flushObj_at st a k o), hd]
  simp only
  split
  · rename_i e; exact e.symm
  · rfl

/-- flushing an object whose dirty slots all equal their origins writes the account record and nothing else -/
theorem flushObj_noop (st : Store) (a : Nat) (o : Obj)
    (h : ∀ k v, AList.find? o.dirty k = some v → (AList.find? o.origin k).getD 0 = v) :
    flushObj st a o = (st.setAcct a { nonce := o.nonce, codeHash := o.codeHash, balance := Int.tdiv o.balance weiPerUnibi }, o) := by
  rw [flushObj_eq]
  generalize st.setAcct a _ = x
  -- every key of the walk is dirty, with its value cached as origin: no step writes
  have hk : ∀ k ∈ sortNat (o.dirty.map (·.1)), flushStep a (x, o) k = (x, o) := by
    intro k hk
    cases hd : AList.find? o.dirty k with
    | none => exact absurd ((mem_sortNat _ _).mp hk) ((find?_none_iff _ _).mp hd)
    | some v => unfold flushStep; simp only [hd, Option.getD_some, h k v hd, if_true]
  generalize sortNat (o.dirty.map (·.1)) = L at hk
  induction L with
  | nil => rfl
  | cons k t ih =>
    rw [List.foldl_cons, hk k (List.mem_cons_self ..)]
    exact ih fun k' h' => hk k' (List.mem_cons_of_mem _ h')

/-! ### what one flush leaves of the StateDB: the current store, the keys of the dirty map -/

theorem foldl_stepC_curStore (L : List Nat) (acc : S × Store) : curStore (L.foldl stepC acc).1 = curStore acc.1 :=
  foldl_const stepC (fun acc => curStore acc.1) stepC_curStore L acc

theorem mem_keys_set (d : List (Nat × Int)) (a : Nat) (v : Int) (x : Nat) :
    x ∈ (AList.set d a v).map (·.1) ↔ x = a ∨ x ∈ d.map (·.1) := by
  by_cases e : a = x
  · subst e
    simp only [true_or, iff_true]
    exact mem_keys_of_find (AList.find?_set_self d a v)
  · rw [← Decidable.not_iff_not, ← find?_none_iff, AList.find?_set_ne _ _ _ _ e, find?_none_iff, not_or]
    exact (and_iff_right (Ne.symm e)).symm

theorem foldl_stepC_keys (L : List Nat) (acc : S × Store) (x : Nat) :
    x ∈ (L.foldl stepC acc).1.dirties.map (·.1) ↔ x ∈ L ∨ x ∈ acc.1.dirties.map (·.1) := by
  induction L generalizing acc with
  | nil => simp
  | cons b t ih =>
    obtain ⟨_, hb⟩ := stepC_fst acc b
    rw [List.foldl_cons, ih, hb, mem_keys_set, List.mem_cons, or_left_comm, or_assoc]

theorem commitInto_keys (s : S) (st : Store) (x : Nat) :
    x ∈ (commitInto s st).1.dirties.map (·.1) ↔ x ∈ s.dirties.map (·.1) := by
  rw [commitInto_eq, foldl_stepC_keys, mem_sortNat, or_self]

/-- an address whose object is gone and which the current store does not hold is left alone by a flush -/
theorem commitInto_at_absent (s : S) (st : Store) (a : Nat) (hd : a ∈ s.dirties.map (·.1))
    (ho : AList.find? s.objs a = none) (hl : (curStore s).acct a = none) :
    (commitInto s st).2.acct a = st.acct a ∧ ∀ k, (commitInto s st).2.slot a k = st.slot a k := by
  -- carry the current store along: it never changes during the fold
  let P : S × Store → (Option Obj × Option StoreAcc × (Nat → Nat)) × Store := fun acc => (atAddr a acc, curStore acc.1)
  have hstep : ∀ acc, P acc = P (s, st) → P (stepC acc a) = P (s, st) := by
    intro acc e
    simp only [P, Prod.mk.injEq] at e
    have hl' : loadObj (curStore acc.1) a = none := by rw [e.2]; unfold loadObj; rw [hl]; rfl
    rw [stepC_absent acc a ((atAddr_ext e.1).1.trans ho) hl']
    exact Prod.ext e.1 e.2
  have h := foldl_at stepC P a (fun acc b hb => by simp only [P]; rw [stepC_frame a acc b hb, stepC_curStore]) _ (s, st)
    (fun acc' e => (hstep acc' e).trans (hstep _ rfl).symm) (sortNat_nodup _) ((mem_sortNat _ _).mpr hd)
  rw [← commitInto_eq, hstep _ rfl] at h
  exact (atAddr_ext (congrArg Prod.fst h)).2

/-! ### flushing twice -/

/-- **the second flush writes nothing new.** `s` is a state whose current store is `c`; it is flushed into `c`, giving `(sa, sta)`;
    any state that holds `sa`'s objects and dirty map and reads from `sta` — what `commitCache` followed by `Commit` sets up —
    flushes into `sta` without changing an account or a slot. -/
theorem second_flush_writes_nothing (s : S) (c : Store) (sb : S)
    (hcached : ∀ a ∈ s.dirties.map (·.1), ∃ o, AList.find? s.objs a = some o)
    (hobjs : sb.objs = (commitInto s c).1.objs) (hdirt : sb.dirties = (commitInto s c).1.dirties)
    (hcur : curStore sb = (commitInto s c).2) :
    StoreExt (commitInto sb (commitInto s c).2).2 (commitInto s c).2 := by
  have main : ∀ a, (commitInto sb (commitInto s c).2).2.acct a = (commitInto s c).2.acct a ∧
      ∀ k, (commitInto sb (commitInto s c).2).2.slot a k = (commitInto s c).2.slot a k := by
    intro a
    have hkeys : a ∈ sb.dirties.map (·.1) ↔ a ∈ s.dirties.map (·.1) := by rw [hdirt]; exact commitInto_keys s c a
    by_cases hd : a ∈ s.dirties.map (·.1)
    · obtain ⟨o, ho⟩ := hcached a hd
      have ho' := commitInto_obj s c a o ho hd
      rw [← hobjs] at ho'
      cases hs : o.suicided with
      | false =>
        -- the object is the flushed one: same record, and every dirty slot equals its origin, so no slot is written
        rw [hs] at ho'
        have hf := flushObj_obj c a o
        have hs' : (flushObj c a o).2.suicided = false := (congrArg (·.suicided) hf).trans hs
        refine ⟨?_, fun k => ?_⟩
        · rw [commitInto_acct sb _ a _ ho' (hkeys.mpr hd) hs', commitInto_acct s c a o ho hd hs, congrArg (·.nonce) hf,
            congrArg (·.codeHash) hf, congrArg (·.balance) hf]
        · rw [commitInto_slot sb _ a k _ ho' (hkeys.mpr hd) hs', congrArg (·.dirty) hf]
          cases hk : AList.find? o.dirty k with
          | none => rfl
          | some v => simp only [flushObj_origin_of_dirty c a o k v hk, if_true]
      | true =>
        -- the object is gone, and so is the account in the store the second flush reads from
        rw [hs] at ho'
        exact commitInto_at_absent sb _ a (hkeys.mpr hd) ho' (by rw [hcur]; exact (commitInto_suicided s c a o ho hd hs).1)
    · exact commitInto_frame sb _ a (mt hkeys.mp hd)
  exact ⟨fun a => (main a).1, fun a k => (main a).2 k⟩

/-- a precompile call without side effect, at ANY point of a transaction (first entry or not): if `Commit` follows without a revert
    in between, it persists the same accounts and slots as without the call -/
theorem query_precompile_commits_the_same (s : S) (hlimit : s.cacheCount + 1 ≤ maxCacheCount)
    (hcached : ∀ a ∈ s.dirties.map (·.1), ∃ o, AList.find? s.objs a = some o) :
    (precompile s .none).2 = "ok" ∧ StoreExt (commit (precompile s .none).1).txStore (commit s).txStore := by
  -- the state handed to the first flush, which goes into the current store `c`
  let c := curStore s
  let s1 : S := { (append { s with cache := some c } (.precompile c)) with cacheCount := s.cacheCount + 1 }
  have hA := commitInto_congr { s with txStore := c } s1 c rfl
    (show c = (s.cache.getD c) by cases h : s.cache <;> simp [c, curStore, h]) fun _ => Iff.rfl
  have hpre : precompile s .none = ({ (commitInto s1 c).1 with cache := some (commitInto s1 c).2 }, "ok") := by
    unfold precompile
    have : ¬ (s.cacheCount + 1 > maxCacheCount) := by omega
    simp only [this, if_false, commitCache, append, Entry.dirtied]
    rfl
  rw [hpre]
  refine ⟨rfl, ?_⟩
  rw [commit_store s, ← hA.1, commit_store]
  exact second_flush_writes_nothing s1 c _ hcached rfl rfl rfl

/-- **C04 (partial, positive) — a query precompile that nothing reverts does not change what the transaction commits.**
    `precompile s .none` is a precompile call without side effect (`OnRunStart` only: cache context, journal entry,
    `CommitCacheCtx`); if `Commit` follows without a revert in between, the committed store holds the same accounts and slots as if
    the call had not been there.  The side conditions are that it is the first precompile entry of the transaction (`hc`;
    `query_precompile_commits_the_same` does without it), that the per-transaction limit is not exceeded, and that every dirtied
    address has a state object (every journal entry that dirties an address is appended next to a write of its object —
    `SDBTx.NInv`).  What the theorem does NOT say is the subject of the counterexamples of this property: a frame around the call
    that is reverted does not restore what the flush wrote. -/
theorem C04_unreverted_query_precompile_commits_the_same_partial (s : S) (hc : s.cache = none)
    (hlimit : s.cacheCount + 1 ≤ maxCacheCount)
    (hcached : ∀ a ∈ s.dirties.map (·.1), ∃ o, AList.find? s.objs a = some o) :
    (precompile s .none).2 = "ok" ∧ StoreExt (commit (precompile s .none).1).txStore (commit s).txStore :=
  query_precompile_commits_the_same s hlimit hcached

/-- the side conditions are met by a state in the middle of a transaction: one slot written, one balance changed -/
def demoFlush : S :=
  applyW (applyW { txStore := Store.setAcct {} 7 { nonce := 1, codeHash := 0, balance := 5 } } (.setState 7 1 9)) (.addBalance 7 3)

example : demoFlush.cache = none ∧ demoFlush.cacheCount + 1 ≤ maxCacheCount ∧
    (∀ a ∈ demoFlush.dirties.map (·.1), ∃ o, AList.find? demoFlush.objs a = some o) ∧
    (commit (precompile demoFlush .none).1).txStore.slot 7 1 = 9 := by
  refine ⟨by decide, by decide, ?_, by decide⟩
  have h : ∀ a ∈ demoFlush.dirties.map (·.1), (AList.find? demoFlush.objs a).isSome = true := by decide
  exact fun a ha => Option.isSome_iff_exists.mp (h a ha)

end Nibiru.SDB
