/-
  SurfC06 — GENERATED by bin/pin-surface (a developer tool) on the tree the models were written against; committed.
  The fingerprints of the functions property C06's model was written from (lib/surface.json) as they were then; the
  extractor recomputes them from /repo on every run (Generated.surface_C06).  A difference means that a modelled function
  changed structurally: the hand-written model is then no longer known to describe it, the obligation breaks and the check
  searches for a failing input (DESIGN §3, T1-S).
-/
import Generated.Facts

namespace Nibiru.Surface

def expected_C06 : List (String × String) := [
  ("x/evm/embeds/embeds.go:CompiledEvmContract.MustLoad", "a358c7cb5e5d343e"),
  ("x/evm/keeper/bank_extension.go:Keeper.NewStateDB", "a116621a4fbcd971"),
  ("x/evm/keeper/bank_extension.go:NibiruBankKeeper.BurnCoins", "94ad2a0ac4ee19fe"),
  ("x/evm/keeper/bank_extension.go:NibiruBankKeeper.DelegateCoins", "925b20b9407936ae"),
  ("x/evm/keeper/bank_extension.go:NibiruBankKeeper.DelegateCoinsFromAccountToModule", "e953510c32f22cd5"),
  ("x/evm/keeper/bank_extension.go:NibiruBankKeeper.ForceGasInvariant", "439244c89dd5eb8d"),
  ("x/evm/keeper/bank_extension.go:NibiruBankKeeper.InputOutputCoins", "7a19517b333291ca"),
  ("x/evm/keeper/bank_extension.go:NibiruBankKeeper.MintCoins", "6ff04b3715f4ca63"),
  ("x/evm/keeper/bank_extension.go:NibiruBankKeeper.SendCoins", "7ebb556bc0e6e5ec"),
  ("x/evm/keeper/bank_extension.go:NibiruBankKeeper.SendCoinsFromAccountToModule", "b2b858f899bc0e68"),
  ("x/evm/keeper/bank_extension.go:NibiruBankKeeper.SendCoinsFromModuleToAccount", "dc1586e913fc3c9f"),
  ("x/evm/keeper/bank_extension.go:NibiruBankKeeper.SendCoinsFromModuleToModule", "f40f796a6d68286c"),
  ("x/evm/keeper/bank_extension.go:NibiruBankKeeper.SyncStateDBWithAccount", "ec6c5c859cf7c34b"),
  ("x/evm/keeper/bank_extension.go:NibiruBankKeeper.UndelegateCoins", "b7e54dd4eaf9740e"),
  ("x/evm/keeper/bank_extension.go:NibiruBankKeeper.UndelegateCoinsFromModuleToAccount", "937d529ed7e2bb8b"),
  ("x/evm/keeper/bank_extension.go:findEtherBalanceChangeFromCoins", "3a24dedc433afcde"),
  ("x/evm/keeper/erc20.go:Erc20GasLimitDeploy", "99836c8f9ef255ff"),
  ("x/evm/keeper/erc20.go:Erc20GasLimitExecute", "c430b7eaf5893c24"),
  ("x/evm/keeper/erc20.go:Erc20GasLimitQuery", "bd4921fc0edb8861"),
  ("x/evm/keeper/erc20.go:Keeper.ERC20", "f5f4f5ed9636fdcb"),
  ("x/evm/keeper/erc20.go:bytes32ToString", "39c799b5134432c6"),
  ("x/evm/keeper/erc20.go:erc20Calls.BalanceOf", "5887f0c86fbfe8f1"),
  ("x/evm/keeper/erc20.go:erc20Calls.Burn", "4affe7d17a0ceba6"),
  ("x/evm/keeper/erc20.go:erc20Calls.LoadERC20BigInt", "ef0a7283c9ebe905"),
  ("x/evm/keeper/erc20.go:erc20Calls.LoadERC20Decimals", "9ae933fca270eea7"),
  ("x/evm/keeper/erc20.go:erc20Calls.LoadERC20Name", "82716e5b9fa89c79"),
  ("x/evm/keeper/erc20.go:erc20Calls.LoadERC20Symbol", "03c3e931ab2ee9e1"),
  ("x/evm/keeper/erc20.go:erc20Calls.Mint", "013fa5fa67221b93"),
  ("x/evm/keeper/erc20.go:erc20Calls.Transfer", "bcf6dc3e17646cd6"),
  ("x/evm/keeper/erc20.go:erc20Calls.loadERC20String", "f255a38ea181a01c"),
  ("x/evm/keeper/erc20.go:erc20Calls.loadERC20Uint8", "eea5ae1b3ae1f19f"),
  ("x/evm/keeper/erc20.go:getCallGasWithLimit", "ae01859e7b29b594"),
  ("x/evm/keeper/funtoken_from_coin.go:Keeper.createFunTokenFromCoin", "87b36e1f720a7c40"),
  ("x/evm/keeper/funtoken_from_coin.go:Keeper.deployERC20ForBankCoin", "454d9e4011eef275"),
  ("x/evm/keeper/funtoken_from_erc20.go:ERC20Metadata.ToBankMetadata", "14072c8ce3927b38"),
  ("x/evm/keeper/funtoken_from_erc20.go:Keeper.FindERC20Metadata", "f5938c4f4581e7fc"),
  ("x/evm/keeper/funtoken_from_erc20.go:Keeper.createFunTokenFromERC20", "bffadc69c8d63481"),
  ("x/evm/keeper/funtoken_state.go:FunTokenState.SafeInsert", "9c3c1d4ec244c085"),
  ("x/evm/keeper/funtoken_state.go:IndexesFunToken.IndexerList", "ed7927657d36a2e1"),
  ("x/evm/keeper/funtoken_state.go:NewFunTokenState", "41f840f016526098"),
  ("x/evm/keeper/msg_server.go:Keeper.ApplyEvmMsg", "7ca606433c5e3fc4"),
  ("x/evm/keeper/msg_server.go:Keeper.EthereumTx", "ff1cfaf67307fa3e"),
  ("x/evm/keeper/msg_server.go:Keeper.convertCoinToEvmBornCoin", "25a55dc7beb8188b"),
  ("x/evm/keeper/msg_server.go:Keeper.convertCoinToEvmBornERC20", "ab1d2bee6473e7fb"),
  ("x/evm/keeper/statedb.go:Keeper.DeleteAccount", "55444b6d1b75c166"),
  ("x/evm/keeper/statedb.go:Keeper.ForEachStorage", "32470b2c4c9d3677"),
  ("x/evm/keeper/statedb.go:Keeper.GetAccount", "b6bf1ae760d5acd3"),
  ("x/evm/keeper/statedb.go:Keeper.GetCode", "163831ba038a22c2"),
  ("x/evm/keeper/statedb.go:Keeper.SetAccBalance", "65c00e6bf4f06eb5"),
  ("x/evm/keeper/statedb.go:Keeper.SetAccount", "ad98931ec0106cd3"),
  ("x/evm/keeper/statedb.go:Keeper.SetCode", "d3263f629b7c5002"),
  ("x/evm/keeper/statedb.go:Keeper.SetState", "651fba93de3074a1"),
  ("x/evm/keeper/statedb.go:Keeper.getAccountWithoutBalance", "c82c12b12a4b8d9a"),
  ("x/evm/precompile/funtoken.go:FunTokenMethod_balance", "ebdade74aa917633"),
  ("x/evm/precompile/funtoken.go:FunTokenMethod_bankBalance", "45c2e0a5841bc390"),
  ("x/evm/precompile/funtoken.go:FunTokenMethod_bankMsgSend", "3edc0a8b6e459ceb"),
  ("x/evm/precompile/funtoken.go:FunTokenMethod_getErc20Address", "46705f0937e65c4d"),
  ("x/evm/precompile/funtoken.go:FunTokenMethod_sendToBank", "f42083c57d9d4684"),
  ("x/evm/precompile/funtoken.go:FunTokenMethod_sendToEvm", "107cf88701d94ba3"),
  ("x/evm/precompile/funtoken.go:FunTokenMethod_whoAmI", "895c43247c94221a"),
  ("x/evm/precompile/funtoken.go:PrecompileAddr_FunToken", "6bada78094e59947"),
  ("x/evm/precompile/funtoken.go:PrecompileFunToken", "c4183e083a7bc3a8"),
  ("x/evm/precompile/funtoken.go:parseArgsBankMsgSend", "44326799ef1bb36a"),
  ("x/evm/precompile/funtoken.go:parseArgsSendToEvm", "3553d07d60d854e4"),
  ("x/evm/precompile/funtoken.go:parseToAddr", "461b9c38078cd51f"),
  ("x/evm/precompile/funtoken.go:precompileFunToken.ABI", "d4da8adf2e0add34"),
  ("x/evm/precompile/funtoken.go:precompileFunToken.Address", "0ead5f01841e0ae9"),
  ("x/evm/precompile/funtoken.go:precompileFunToken.RequiredGas", "fb80deb6bd8f9f49"),
  ("x/evm/precompile/funtoken.go:precompileFunToken.Run", "83653bf9a1b73318"),
  ("x/evm/precompile/funtoken.go:precompileFunToken.balance", "ae3fdf2eaa0d79b6"),
  ("x/evm/precompile/funtoken.go:precompileFunToken.bankBalance", "2659ce58982d5303"),
  ("x/evm/precompile/funtoken.go:precompileFunToken.bankMsgSend", "aceb504560d58a11"),
  ("x/evm/precompile/funtoken.go:precompileFunToken.getErc20Address", "fb1d48a57b056493"),
  ("x/evm/precompile/funtoken.go:precompileFunToken.mintOrUnescrowERC20", "9767befb8379f3c8"),
  ("x/evm/precompile/funtoken.go:precompileFunToken.parseArgsBalance", "5cf043fd6892e8a6"),
  ("x/evm/precompile/funtoken.go:precompileFunToken.parseArgsBankBalance", "df1d52d29a9433ed"),
  ("x/evm/precompile/funtoken.go:precompileFunToken.parseArgsGetErc20Address", "d583dcdbe727dd13"),
  ("x/evm/precompile/funtoken.go:precompileFunToken.parseArgsSendToBank", "e23b210d73f60c8d"),
  ("x/evm/precompile/funtoken.go:precompileFunToken.parseArgsWhoAmI", "5891ac4cc43ca250"),
  ("x/evm/precompile/funtoken.go:precompileFunToken.sendToBank", "d523551b46b17186"),
  ("x/evm/precompile/funtoken.go:precompileFunToken.sendToEvm", "93df6283ae488538"),
  ("x/evm/precompile/funtoken.go:precompileFunToken.whoAmI", "728268c0ec79c97a"),
  ("x/evm/precompile/precompile.go:OnRunStart", "3938ac3cfd11eae7"),
  ("x/evm/statedb/journal.go:PrecompileCalled.Revert", "59987db5ca4740f2"),
  ("x/evm/statedb/statedb.go:StateDB.CacheCtxForPrecompile", "34a11d12b4a8730d"),
  ("x/evm/statedb/statedb.go:StateDB.Commit", "a8e7d08197cba9ef"),
  ("x/evm/statedb/statedb.go:StateDB.CommitCacheCtx", "f738a98987d3471b"),
  ("x/evm/statedb/statedb.go:StateDB.SavePrecompileCalledJournalChange", "2e9762e5899ca87e"),
  ("x/evm/statedb/statedb.go:StateDB.commitCtx", "745cd81657edc9f7")]

/-- 89 declarations -/
theorem fact_C06_surface_fingerprints : Generated.surface_C06 = expected_C06 := rfl

end Nibiru.Surface
