/-
  SurfC02 — GENERATED by bin/pin-surface (a developer tool) on the tree the models were written against; committed.
  The fingerprints of the functions property C02's model was written from (lib/surface.json) as they were then; the
  extractor recomputes them from /repo on every run (Generated.surface_C02).  A difference means that a modelled function
  changed structurally: the hand-written model is then no longer known to describe it, the obligation breaks and the check
  searches for a failing input (DESIGN §3, T1-S).
-/
import Generated.Facts

namespace Nibiru.Surface

def expected_C02 : List (String × String) := [
  ("app/ante.go:NewAnteHandler", "8d069e41427db5a1"),
  ("app/ante.go:NewAnteHandlerNonEVM", "22d91c12e69bc42e"),
  ("app/ante/authz_guard.go:AnteDecoratorAuthzGuard.AnteHandle", "8f5591d5d80b8017"),
  ("app/ante/handler_opts.go:AnteHandlerError", "d2a1c5ef591b1442"),
  ("app/ante/handler_opts.go:AnteHandlerOptions.ValidateAndClean", "735d8c56e20b0240"),
  ("app/ante/reject_ethereum_tx_msgs.go:AnteDecoratorPreventEtheruemTxMsgs.AnteHandle", "4102bd5e04a9e564"),
  ("app/app.go:NewNibiruApp", "3a60060765617618"),
  ("app/evmante/evmante_gas_consume.go:AnteDecEthGasConsume.AnteHandle", "a80c3c94f1fb1e8c"),
  ("app/evmante/evmante_handler.go:NewAnteHandlerEVM", "32a59353332c22fd"),
  ("app/evmante/evmante_sigverify.go:EthSigVerificationDecorator.AnteHandle", "77e182084b3ff714"),
  ("app/evmante/evmante_sigverify.go:NewEthSigVerificationDecorator", "e7877818f0dd5608"),
  ("app/evmante/evmante_validate_basic.go:EthValidateBasicDecorator.AnteHandle", "58276eadc6a0cc92"),
  ("app/evmante/evmante_validate_basic.go:NewEthValidateBasicDecorator", "519f0ed2360c24ef"),
  ("x/evm/keeper/gas_fees.go:Keeper.RefundGas", "5057f4d9fabbd40c"),
  ("x/evm/keeper/msg_server.go:Keeper.ApplyEvmMsg", "7ca606433c5e3fc4"),
  ("x/evm/keeper/msg_server.go:Keeper.EthereumTx", "ff1cfaf67307fa3e"),
  ("x/evm/msg.go:MsgEthereumTx.GetSigners", "b15fc1350ee9694e"),
  ("x/evm/msg.go:MsgEthereumTx.ValidateBasic", "d7bf128229f3d3ff")]

/-- 18 declarations -/
theorem fact_C02_surface_fingerprints : Generated.surface_C02 = expected_C02 := rfl

end Nibiru.Surface
