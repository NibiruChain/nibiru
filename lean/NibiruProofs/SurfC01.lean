/-
  SurfC01 — GENERATED by bin/pin-surface (a developer tool) on the tree the models were written against; committed.
  The fingerprints of the functions property C01's model was written from (lib/surface.json) as they were then; the
  extractor recomputes them from /repo on every run (Generated.surface_C01).  A difference means that a modelled function
  changed structurally: the hand-written model is then no longer known to describe it, the obligation breaks and the check
  searches for a failing input (DESIGN §3, T1-S).
-/
import Generated.Facts

namespace Nibiru.Surface

def expected_C01 : List (String × String) := [
  ("x/common/omap/omap.go:SortedMap[K, V].BuildFrom", "c97091674ca4d955"),
  ("x/common/omap/omap.go:SortedMap[K, V].Data", "e681f9e8678fa083"),
  ("x/common/omap/omap.go:SortedMap[K, V].Delete", "2f38f2e1aa733982"),
  ("x/common/omap/omap.go:SortedMap[K, V].Get", "aefba31adf7e6d0c"),
  ("x/common/omap/omap.go:SortedMap[K, V].Has", "fdbec83373025761"),
  ("x/common/omap/omap.go:SortedMap[K, V].InternalData", "16acd02756ca41a2"),
  ("x/common/omap/omap.go:SortedMap[K, V].Keys", "715db18737fcf9cb"),
  ("x/common/omap/omap.go:SortedMap[K, V].Len", "3fe64842fde541ad"),
  ("x/common/omap/omap.go:SortedMap[K, V].Range", "691d0532a3f3a134"),
  ("x/common/omap/omap.go:SortedMap[K, V].Set", "29c79e6021572793"),
  ("x/common/omap/omap.go:SortedMap[K, V].Union", "01b11bcbbe729796"),
  ("x/common/omap/omap.go:SortedMap[K, V].ensureOrder", "74ba354b935039c9"),
  ("x/common/omap/omap.go:SorterLeq", "d6d4c171d2601bcc"),
  ("x/common/set/set.go:New", "a1ec2946b9e5c7e2"),
  ("x/common/set/set.go:Set[T].Add", "059c9862776f384f"),
  ("x/common/set/set.go:Set[T].AddMulti", "1284e4153eb69e72"),
  ("x/common/set/set.go:Set[T].Has", "ddd182efec538427"),
  ("x/common/set/set.go:Set[T].Len", "094ffdc985604c45"),
  ("x/common/set/set.go:Set[T].Remove", "ef8955e616904c6b"),
  ("x/common/set/set.go:Set[T].ToSlice", "157e1d693c4e64fd"),
  ("x/evm/const.go:BASE_FEE_MICRONIBI", "b3c7c09fd5f787e9"),
  ("x/evm/keeper/bank_extension.go:Keeper.NewStateDB", "a116621a4fbcd971"),
  ("x/evm/keeper/grpc_query.go:Keeper.EstimateGasForEvmCallType", "85bf40c5a120c46e"),
  ("x/evm/keeper/grpc_query.go:Keeper.EthCall", "de8fcd89e61cb07c"),
  ("x/evm/keeper/grpc_query.go:Keeper.TraceEthTxMsg", "cace846f18bc733c"),
  ("x/evm/keeper/keeper.go:Keeper.BaseFeeMicronibiPerGas", "4fc608fde500dc67"),
  ("x/evm/keeper/keeper.go:Keeper.BaseFeeWeiPerGas", "0e013df8eb002a93"),
  ("x/evm/keeper/precompiles.go:Keeper.AddPrecompiles", "630524dbfd2c3c4a"),
  ("x/evm/precompile/precompile.go:methodById", "4f71b10071e30b78"),
  ("x/evm/statedb/journal.go:journal.sortedDirties", "08af02e94c797dc8"),
  ("x/evm/statedb/state_object.go:Storage.SortedKeys", "7696b04304ed9139"),
  ("x/evm/statedb/statedb.go:StateDB.commitCtx", "745cd81657edc9f7"),
  ("x/evm/tx.go:GetTxPriority", "32d1396501b24eb7"),
  ("x/evm/tx_data_dynamic_fee.go:BigIntMax", "1b7ec85d94af96c8"),
  ("x/oracle/keeper/ballot.go:Keeper.removeInvalidVotes", "c238cdda756370bb"),
  ("x/oracle/keeper/params.go:Keeper.MinValidPerWindow", "aab3d59f572de554"),
  ("x/oracle/keeper/params.go:Keeper.MinVoters", "74038df9f25f921b"),
  ("x/oracle/keeper/params.go:Keeper.RewardBand", "cb5dff12c7a96f00"),
  ("x/oracle/keeper/params.go:Keeper.SlashFraction", "84f053b81b66c3e0"),
  ("x/oracle/keeper/params.go:Keeper.SlashWindow", "cbe0c93fe878aad6"),
  ("x/oracle/keeper/params.go:Keeper.UpdateParams", "00db37025a96a657"),
  ("x/oracle/keeper/params.go:Keeper.VotePeriod", "8600b4d4b08c091e"),
  ("x/oracle/keeper/params.go:Keeper.VoteThreshold", "e358bd5e34358d7a"),
  ("x/oracle/keeper/params.go:Keeper.Whitelist", "e59a4d5c0e30868d"),
  ("x/oracle/keeper/params.go:mergeOracleParams", "65f4602145025ac5"),
  ("x/oracle/keeper/reward.go:Keeper.rewardWinners", "2f5aea0c372d7067"),
  ("x/oracle/keeper/update_exchange_rates.go:Keeper.incrementMissCounters", "0d7418354ebb5de8"),
  ("x/oracle/keeper/update_exchange_rates.go:Keeper.tallyVotesAndUpdatePrices", "862dd1fd32be3bef"),
  ("x/sudo/keeper/msg_server.go:Sudoers.ToPb", "da40185025a614e5")]

/-- 49 declarations -/
theorem fact_C01_surface_fingerprints : Generated.surface_C01 = expected_C01 := rfl

end Nibiru.Surface
