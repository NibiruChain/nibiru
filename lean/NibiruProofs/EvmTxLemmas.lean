/-
  Lemmas about NibiruModel.EvmTx shared by C05 and C07: the frame facts of the state updates, what an accepted ante pass
  guarantees (`ante_some`, `ante_spec`), the three outcomes of `deliver` (`deliver_cases`), and what a tx that is not rejected does
  to the sequences and to the record of executed messages (`deliver_spec`).
-/
import NibiruModel.EvmTx
namespace Nibiru.EvmTx
open Nibiru

theorem _root_.Nibiru.AList.find?_set {κ ν : Type} [DecidableEq κ] (m : AList κ ν) (a b : κ) (v : ν) :
    AList.find? (AList.set m a v) b = if a = b then some v else AList.find? m b := by
  by_cases h : a = b
  · rw [if_pos h, ← h, AList.find?_set_self]
  · rw [if_neg h, AList.find?_set_ne _ _ _ _ h]

@[simp] theorem getSeq_setSeq (s : State) (a b : String) (n : Nat) :
    getSeq (setSeq s a n) b = if a = b then n else getSeq s b := by
  unfold getSeq setSeq; rw [AList.find?_set]; split <;> rfl

@[simp] theorem getBal_setBal (s : State) (a b : String) (v : Int) :
    getBal (setBal s a v) b = if a = b then v else getBal s b := by
  unfold getBal setBal; rw [AList.find?_set]; split <;> rfl

@[simp] theorem getSeq_setBal (s : State) (a b : String) (v : Int) : getSeq (setBal s a v) b = getSeq s b := rfl
@[simp] theorem getBal_setSeq (s : State) (a b : String) (n : Nat) : getBal (setSeq s a n) b = getBal s b := rfl
@[simp] theorem collector_setBal (s : State) (a : String) (v : Int) : (setBal s a v).collector = s.collector := rfl
@[simp] theorem collector_setSeq (s : State) (a : String) (n : Nat) : (setSeq s a n).collector = s.collector := rfl
@[simp] theorem executed_setBal (s : State) (a : String) (v : Int) : (setBal s a v).executed = s.executed := rfl
@[simp] theorem executed_setSeq (s : State) (a : String) (n : Nat) : (setSeq s a n).executed = s.executed := rfl

/-- number of messages of `a` in a tx -/
def countOf (a : String) (ms : List Msg) : Nat := (ms.filter (fun m => m.sender = a)).length

@[simp] theorem countOf_nil (a : String) : countOf a [] = 0 := rfl

theorem countOf_cons (a : String) (m : Msg) (ms : List Msg) :
    countOf a (m :: ms) = (if m.sender = a then 1 else 0) + countOf a ms := by
  unfold countOf
  by_cases h : m.sender = a <;> simp [List.filter, h] <;> omega

def bump (f : String → Nat) (a : String) : String → Nat := fun x => if x = a then f x + 1 else f x

/-- the nonces of the messages are the consecutive sequence numbers of their senders, starting from `f` -/
def NoncesFrom : (String → Nat) → List Msg → Prop
  | _, [] => True
  | f, m :: ms => m.nonce = f m.sender ∧ NoncesFrom (bump f m.sender) ms

theorem bump_self (f : String → Nat) (a : String) : bump f a a = f a + 1 := if_pos rfl

theorem bump_of_ne (f : String → Nat) {a x : String} (h : x ≠ a) : bump f a x = f x := if_neg h

theorem bump_count (f : String → Nat) (m : Msg) (ms : List Msg) (a : String) :
    bump f m.sender a + countOf a ms = f a + countOf a (m :: ms) := by
  rw [countOf_cons]
  by_cases h : a = m.sender
  · rw [h, bump_self, if_pos rfl]; omega
  · rw [bump_of_ne f h, if_neg (Ne.symm h)]; omega

/-! ### the ante handler -/

/-- the fee deduction of `passGas` (deductFee), under a name: the counterpart of `payRefund` -/
def payFee (s : State) (m : Msg) : State :=
  { (setBal s m.sender (getBal s m.sender - anteFee m)) with collector := s.collector + anteFee m }

theorem passGas_cons (s : State) (m : Msg) (ms : List Msg) :
    passGas s (m :: ms) =
      if anteFee m = 0 then passGas s ms else if getBal s m.sender < anteFee m then none else passGas (payFee s m) ms := rfl

@[simp] theorem getBal_payFee (s : State) (m : Msg) (a : String) :
    getBal (payFee s m) a = if m.sender = a then getBal s m.sender - anteFee m else getBal s a :=
  getBal_setBal s m.sender a _

@[simp] theorem collector_payFee (s : State) (m : Msg) : (payFee s m).collector = s.collector + anteFee m := rfl

/-- the fee pass touches no sequence and no `executed` entry -/
theorem passGas_frame (s s' : State) (ms : List Msg) (h : passGas s ms = some s') :
    getSeq s' = getSeq s ∧ s'.executed = s.executed := by
  induction ms generalizing s with
  | nil => cases h; exact ⟨rfl, rfl⟩
  | cons m ms ih =>
    rw [passGas_cons] at h
    split at h
    · exact ih s h
    · exact ih (payFee s m) (Option.ite_none_left_eq_some.mp h).2

/-- the sequence pass: every message's nonce equals the sender's sequence at its turn, each sender ends `count` higher, and
    nothing else changes -/
theorem passSeq_spec (s s' : State) (ms : List Msg) (h : passSeq s ms = some s') :
    NoncesFrom (getSeq s) ms ∧ (∀ a, getSeq s' a = getSeq s a + countOf a ms) ∧
    getBal s' = getBal s ∧ s'.collector = s.collector ∧ s'.executed = s.executed := by
  induction ms generalizing s with
  | nil => cases h; exact ⟨trivial, fun _ => rfl, rfl, rfl, rfl⟩
  | cons m ms ih =>
    simp only [passSeq, Option.ite_none_right_eq_some] at h
    obtain ⟨hn, i1, i2⟩ := ih _ h.2
    have e : getSeq (setSeq s m.sender (m.nonce + 1)) = bump (getSeq s) m.sender := by
      funext x
      rw [getSeq_setSeq]
      by_cases hx : x = m.sender
      · rw [if_pos hx.symm, hx, bump_self, h.1]
      · rw [if_neg (Ne.symm hx), bump_of_ne _ hx]
    rw [e] at hn i1
    exact ⟨⟨h.1, hn⟩, fun a => by rw [i1 a, bump_count], i2⟩

/-- what an accepted ante pass went through (the checks no theorem reads are left out) -/
theorem ante_some (s s1 : State) (ms : List Msg) (h : ante s ms = some s1) :
    passSig ms = true ∧ passVerifyAcc s ms = true ∧ ∃ sg, passGas s ms = some sg ∧ passSeq sg ms = some s1 := by
  simp only [ante, Option.ite_none_left_eq_some, Bool.not_not_eq] at h
  obtain ⟨h1, h2, _, h⟩ := h
  cases hg : passGas s ms with
  | none => rw [hg] at h; cases h
  | some sg =>
    simp only [hg, Option.ite_none_left_eq_some] at h
    exact ⟨h1, h2, sg, rfl, h.2⟩

theorem ante_spec (s s1 : State) (ms : List Msg) (h : ante s ms = some s1) :
    NoncesFrom (getSeq s) ms ∧ (∀ a, getSeq s1 a = getSeq s a + countOf a ms) ∧ s1.executed = s.executed ∧
    (∀ m ∈ ms, m.sigOk = true) := by
  obtain ⟨hsig, _, sg, hg, hq⟩ := ante_some s s1 ms h
  obtain ⟨g1, g2⟩ := passGas_frame s sg ms hg
  obtain ⟨hn, p1, _, _, p2⟩ := passSeq_spec sg s1 ms hq
  rw [g1] at hn p1
  exact ⟨hn, p1, p2.trans g2, fun m hm => (Bool.and_eq_true_iff.mp (List.all_eq_true.mp hsig m hm)).2⟩

/-! ### message execution -/

def key (m : Msg) : String × Nat := (m.sender, m.nonce)

@[simp] theorem getSeq_moveValue (s : State) (m : Msg) (a : String) : getSeq (moveValue s m) a = getSeq s a := by
  unfold moveValue; split <;> rfl

@[simp] theorem executed_moveValue (s : State) (m : Msg) : (moveValue s m).executed = s.executed := by
  unfold moveValue; split <;> rfl

@[simp] theorem collector_moveValue (s : State) (m : Msg) : (moveValue s m).collector = s.collector := by
  unfold moveValue; split <;> rfl

@[simp] theorem getSeq_payRefund (s : State) (m : Msg) (a : String) : getSeq (payRefund s m) a = getSeq s a := rfl

@[simp] theorem getBal_payRefund (s : State) (m : Msg) (a : String) :
    getBal (payRefund s m) a = if m.sender = a then getBal s m.sender + refund m else getBal s a :=
  getBal_setBal s m.sender a _

@[simp] theorem collector_payRefund (s : State) (m : Msg) : (payRefund s m).collector = s.collector - refund m := rfl

theorem execMsg_some (s s' : State) (m : Msg) (h : execMsg s m = some s') :
    s' = payRefund (moveValue (setSeq s m.sender (m.nonce + 1)) m) m ∧ m.kind ≠ .fail ∧ 0 ≤ refund m ∧ refund m ≤ s.collector := by
  simp only [execMsg, Option.ite_none_left_eq_some, Option.some.injEq, collector_moveValue, collector_setSeq] at h
  exact ⟨h.2.2.2.symm, h.1, by omega, by omega⟩

/-- one executed message: sequence of the sender becomes nonce + 1, nothing else changes in the sequences; the message is recorded -/
theorem execMsg_seq (s s' : State) (m : Msg) (h : execMsg s m = some s') :
    (∀ a, getSeq s' a = if m.sender = a then m.nonce + 1 else getSeq s a) ∧ s'.executed = s.executed ++ [key m] := by
  obtain ⟨rfl, _⟩ := execMsg_some s s' m h
  exact ⟨fun a => by simp, by simp [payRefund, key]⟩

/-- executing the messages of a tx whose nonces are consecutive from `f`: each message overwrites its sender's sequence with
    nonce + 1, so whatever the ante handler left there, every sender ends at `f a + count` (a sender without a message keeps
    `f a`) — and every message is recorded once -/
theorem execMsgs_seq (f : String → Nat) (s s' : State) (ms : List Msg) (hn : NoncesFrom f ms)
    (hs : ∀ a, countOf a ms = 0 → getSeq s a = f a) (h : execMsgs s ms = some s') :
    (∀ a, getSeq s' a = f a + countOf a ms) ∧ s'.executed = s.executed ++ ms.map key := by
  induction ms generalizing s f with
  | nil => cases h; exact ⟨fun a => hs a rfl, by simp⟩
  | cons m ms ih =>
    obtain ⟨hm, hrest⟩ := hn
    unfold execMsgs at h
    cases hx : execMsg s m with
    | none => rw [hx] at h; cases h
    | some s1 =>
      rw [hx] at h
      obtain ⟨q1, q2⟩ := execMsg_seq s s1 m hx
      have hs1 : ∀ a, countOf a ms = 0 → getSeq s1 a = bump f m.sender a := by
        intro a h0
        rw [q1 a]
        by_cases ha : m.sender = a
        · rw [if_pos ha, ← ha, bump_self, hm]
        · rw [if_neg ha, bump_of_ne f (Ne.symm ha), hs a (by rw [countOf_cons, if_neg ha, h0])]
      obtain ⟨r1, r2⟩ := ih (bump f m.sender) s1 hrest hs1 h
      exact ⟨fun a => by rw [r1 a, bump_count], by rw [r2, q2]; simp⟩

/-- the recorded messages of a tx with consecutive nonces are new and distinct -/
theorem nonces_fresh (f : String → Nat) (old : List (String × Nat)) (ms : List Msg) (hn : NoncesFrom f ms)
    (hold : ∀ p ∈ old, p.2 < f p.1) (hnd : old.Nodup) :
    (old ++ ms.map key).Nodup ∧ ∀ p ∈ old ++ ms.map key, p.2 < f p.1 + countOf p.1 ms := by
  induction ms generalizing old f with
  | nil => simp only [List.map_nil, List.append_nil, countOf_nil, Nat.add_zero]; exact ⟨hnd, hold⟩
  | cons m ms ih =>
    obtain ⟨hm, hrest⟩ := hn
    -- the new record has nonce `f sender`, above every old one of that sender and below the bumped bound
    have hnd' : (old ++ [key m]).Nodup :=
      List.nodup_append.mpr ⟨hnd, List.pairwise_singleton _ _, fun a ha b hb e => by
        have := hold a ha
        rw [e, List.mem_singleton.mp hb, key, ← hm] at this
        exact Nat.lt_irrefl _ this⟩
    have hold' : ∀ p ∈ old ++ [key m], p.2 < bump f m.sender p.1 := by
      intro p hp
      rcases List.mem_append.mp hp with e | e
      · have := hold p e
        unfold bump; split <;> omega
      · rw [List.mem_singleton.mp e, key, bump_self, hm]; exact Nat.lt_succ_self _
    obtain ⟨r1, r2⟩ := ih (bump f m.sender) (old ++ [key m]) hrest hold' hnd'
    rw [List.map_cons, List.append_cons]
    exact ⟨r1, fun p hp => bump_count f m ms p.1 ▸ r2 p hp⟩

/-! ### DeliverTx -/

/-- the three outcomes of `deliver`: what the committed state is in each -/
theorem deliver_cases (s : State) (ms : List Msg) :
    match (deliver s ms).2 with
    | .rejected => (deliver s ms).1 = s
    | .execFailed => ante s ms = some (deliver s ms).1
    | .ok => ∃ s1, ante s ms = some s1 ∧ execMsgs s1 ms = some (deliver s ms).1 := by
  unfold deliver
  cases ante s ms with
  | none => rfl
  | some s1 =>
    dsimp only
    cases hx : execMsgs s1 ms with
    | none => rfl
    | some s2 => exact ⟨s1, rfl, hx⟩

theorem deliver_of_rejected (s : State) (ms : List Msg) (h : (deliver s ms).2 = .rejected) : (deliver s ms).1 = s := by
  have hd := deliver_cases s ms
  rwa [h] at hd

/-- a tx that is not rejected: its nonces are the consecutive sequence numbers of the senders and its signatures are good; every
    sender's sequence ends `count` higher whether or not the execution took effect; the messages are recorded only if it did -/
theorem deliver_spec (s : State) (ms : List Msg) (h : (deliver s ms).2 ≠ .rejected) :
    NoncesFrom (getSeq s) ms ∧ (∀ m ∈ ms, m.sigOk = true) ∧ (∀ a, getSeq (deliver s ms).1 a = getSeq s a + countOf a ms) ∧
    ((deliver s ms).1.executed = s.executed ∨ (deliver s ms).1.executed = s.executed ++ ms.map key) := by
  have hd := deliver_cases s ms
  split at hd
  · exact absurd ‹_› h
  · obtain ⟨hn, hseq, hex, hsig⟩ := ante_spec s _ ms hd
    exact ⟨hn, hsig, hseq, .inl hex⟩
  · obtain ⟨s1, ha, hx⟩ := hd
    obtain ⟨hn, hseq, hex, hsig⟩ := ante_spec s s1 ms ha
    obtain ⟨q1, q2⟩ := execMsgs_seq (getSeq s) s1 _ ms hn (fun a h0 => by rw [hseq, h0]; rfl) hx
    exact ⟨hn, hsig, q1, .inr (hex ▸ q2)⟩

end Nibiru.EvmTx
