/-
  C07 — Signed EVM transactions execute at most once, in nonce order, on this chain.
  Theorems about NibiruModel.EvmTx (EVM ante chain + EthereumTx message server + baseapp's ante/exec split).
-/
import NibiruProofs.EvmTxLemmas
import Generated.Facts
namespace Nibiru.EvmTx

/-- **Sequence +1 per accepted message, whether or not execution succeeds.** When a tx is admitted by the ante handler, every
    signer's sequence ends exactly `number of its messages in the tx` higher — if all messages execute (`ok`, including VM
    reverts) and also if the execution fails and is discarded (`execFailed`). A rejected tx changes nothing. -/
theorem C07_seq_plus_one_per_accepted_msg (s : State) (ms : List Msg) (a : String) :
    ((deliver s ms).2 = .rejected → (deliver s ms).1 = s) ∧
    ((deliver s ms).2 ≠ .rejected → getSeq (deliver s ms).1 a = getSeq s a + countOf a ms) :=
  ⟨deliver_of_rejected s ms, fun h => (deliver_spec s ms h).2.2.1 a⟩

/-- **Acceptance needs nonce = sequence** (and a signature that recovers under this chain's id): the nonces of an admitted tx are
    the consecutive sequence numbers of their senders — in particular a single message needs `nonce = sequence`; a wrong-chain
    or malformed signature is rejected. -/
theorem C07_accept_iff_nonce_eq_seq (s : State) (ms : List Msg) (h : (deliver s ms).2 ≠ .rejected) :
    NoncesFrom (getSeq s) ms ∧ ∀ m ∈ ms, m.sigOk = true :=
  ⟨(deliver_spec s ms h).1, (deliver_spec s ms h).2.1⟩

theorem C07_single_message (s : State) (m : Msg) (h : (deliver s [m]).2 ≠ .rejected) :
    m.nonce = getSeq s m.sender ∧ m.sigOk = true := by
  obtain ⟨hn, hs⟩ := C07_accept_iff_nonce_eq_seq s [m] h
  exact ⟨hn.1, hs m (List.mem_cons_self)⟩

/-- the signer's sequence as the `i`-th message of the transaction finds it: the stored sequence plus the number of earlier
    messages of the same signer -/
theorem noncesFrom_get (f : String → Nat) (ms : List Msg) (h : NoncesFrom f ms) (i : Nat) (m : Msg) (hi : ms[i]? = some m) :
    m.nonce = f m.sender + countOf m.sender (ms.take i) := by
  induction ms generalizing f i with
  | nil => simp at hi
  | cons x xs ih =>
    cases i with
    | zero =>
      simp only [List.getElem?_cons_zero, Option.some.injEq] at hi
      subst hi
      simp [h.1]
    | succ j =>
      simp only [List.getElem?_cons_succ] at hi
      rw [ih (bump f x.sender) h.2 j hi, List.take_succ_cons, bump_count]

/-- **Contracts are created at the address derived from the signer and the transaction's nonce.** In an admitted transaction every
    contract-creation message is deployed at `CreateAddress(signer, n)` (`deployments`), where `n` — the message's nonce — is the
    signer's account sequence at the moment that message was admitted: the stored sequence plus the number of earlier messages of
    that signer in the same transaction. -/
theorem C07_created_at_signer_and_admission_sequence (s : State) (ms : List Msg) (h : (deliver s ms).2 ≠ .rejected)
    (i : Nat) (m : Msg) (hi : ms[i]? = some m) (hk : m.kind = .create) :
    (m.sender, m.nonce) ∈ deployments ms ∧ m.nonce = getSeq s m.sender + countOf m.sender (ms.take i) := by
  refine ⟨?_, noncesFrom_get (getSeq s) ms (C07_accept_iff_nonce_eq_seq s ms h).1 i m hi⟩
  unfold deployments
  refine List.mem_map.mpr ⟨m, List.mem_filter.mpr ⟨List.mem_of_getElem? hi, by simp [hk]⟩, rfl⟩

/-- **Sequences never decrease** across transactions. -/
theorem C07_seq_monotone (s : State) (ms : List Msg) (a : String) : getSeq s a ≤ getSeq (deliver s ms).1 a := by
  by_cases hr : (deliver s ms).2 = .rejected
  · rw [deliver_of_rejected s ms hr]; exact Nat.le_refl _
  · rw [(deliver_spec s ms hr).2.2.1]; exact Nat.le_add_right _ _

/-- the invariant behind "at most once": every message that took effect has a nonce below its sender's sequence, and no
    (sender, nonce) is recorded twice -/
def Inv (s : State) : Prop := (∀ p ∈ s.executed, p.2 < getSeq s p.1) ∧ s.executed.Nodup

theorem Inv_deliver (s : State) (ms : List Msg) (h : Inv s) : Inv (deliver s ms).1 := by
  by_cases hr : (deliver s ms).2 = .rejected
  · rw [deliver_of_rejected s ms hr]; exact h
  · obtain ⟨hn, _, hseq, hex⟩ := deliver_spec s ms hr
    obtain ⟨f1, f2⟩ := nonces_fresh (getSeq s) s.executed ms hn h.1 h.2
    rcases hex with e | e <;> unfold Inv <;> rw [e]
    · exact ⟨fun p hp => by rw [hseq]; exact Nat.lt_add_right _ (h.1 p hp), h.2⟩
    · exact ⟨fun p hp => by rw [hseq]; exact f2 p hp, f1⟩

def runTxs (s : State) : List (List Msg) → State
  | [] => s
  | tx :: txs => runTxs (deliver s tx).1 txs

/-- **At most once.** Over every submission history — duplicates, gaps, reordering, several messages per tx, failing and
    reverting executions, resubmission in later blocks — no (signer, nonce) takes effect twice. -/
theorem C07_at_most_once (txs : List (List Msg)) (s : State) (h : Inv s) : (runTxs s txs).executed.Nodup := by
  induction txs generalizing s with
  | nil => exact h.2
  | cons tx txs ih => exact ih _ (Inv_deliver s tx h)

theorem C07_initial_state_inv (s : State) (h : s.executed = []) : Inv s := by
  unfold Inv; rw [h]; exact ⟨fun _ hp => absurd hp (List.not_mem_nil), List.nodup_nil⟩

/-- a resubmitted tx is rejected once its first message's nonce has been consumed -/
theorem C07_replay_rejected (s : State) (m : Msg) (ms : List Msg) (h : m.nonce < getSeq s m.sender) :
    (deliver s (m :: ms)).2 = .rejected :=
  Decidable.byContradiction fun hr => by
    have := (C07_accept_iff_nonce_eq_seq s (m :: ms) hr).1.1
    omega

/-- several messages of one sender in one tx end at `seq + k`, although the message server rewrites the nonce (non-vacuity) -/
example :
    let s : State := { seq := [("a", 5)], bal := [("a", 1000000)], collector := 0 }
    let mk := fun (n : Nat) => ({ sender := "a", nonce := n, gasLimit := 21000, tip := none, price := 1000000000000, value := 0,
                                   sigOk := true, kind := .transfer, gasUsed := 21000, to := "b" } : Msg)
    (deliver s [mk 5, mk 6, mk 7]).2 = .ok ∧ getSeq (deliver s [mk 5, mk 6, mk 7]).1 "a" = 8 ∧
    (deliver s [mk 5, mk 7]).2 = .rejected ∧ (deliver (deliver s [mk 5]).1 [mk 5]).2 = .rejected := by
  decide +kernel

/-! ### T1: the EVM ante chain (regenerated from app/evmante/evmante_handler.go on every run) -/

theorem fact_C07_evm_ante_chain : Generated.anteChainEVM =
    ["NewEthSetUpContextDecorator", "NewMempoolGasPriceDecorator", "NewEthValidateBasicDecorator", "NewEthSigVerificationDecorator",
     "NewAnteDecVerifyEthAcc", "CanTransferDecorator", "NewAnteDecEthGasConsume", "NewAnteDecEthIncrementSenderSequence",
     "ante.AnteDecoratorGasWanted", "NewEthEmitEventDecorator"] := rfl

/-- the interpreter runs between the two `SetNonce` calls of `ApplyEvmMsg`: it sees the message's own nonce -/
theorem fact_C07_nonce_pinned_before_the_interpreter_runs :
    Generated.applyEvmMsgNonceAndVm =
      ["SetNonce(msg.From(), msg.Nonce())", "Create", "Call", "SetNonce(msg.From(), msg.Nonce() + 1)"] := rfl

/-- the one nonce comparison of the EVM ante chain: a message is refused iff its nonce DIFFERS from the signer's sequence as it
    stands after the bumps of the messages before it (what `C07_accept_iff_nonce_eq_seq` is stated over); no other decorator
    of the chain looks at a nonce -/
theorem fact_C07_single_nonce_comparison :
    Generated.evmAnteNonceConditions = ["AnteDecEthIncrementSenderSequence.AnteHandle: txData.GetNonce() != nonce"] := rfl

end Nibiru.EvmTx
