/-
  C06 — every FunToken unit is backed one-for-one on the other side.
  Theorems over NibiruModel.FunToken: the invariant (coin-born: ERC20 total supply ≤ escrow; ERC20-born: bank supply ≤ the
  module's ERC20 balance; each ERC20 and each denom in at most one mapping) holds after every operation of every history.
-/
import NibiruModel.FunToken
import Generated.Facts

namespace Nibiru.FunToken
open Nibiru

/-! ### function updates -/

@[simp] theorem upd_same {α : Type} [DecidableEq α] (f : α → Nat) (k : α) (v : Nat) : upd f k v k = v := by simp [upd]
theorem upd_ne {α : Type} [DecidableEq α] (f : α → Nat) (k x : α) (v : Nat) (h : x ≠ k) : upd f k v x = f x := by simp [upd, h]
@[simp] theorem upd2_same {α β : Type} [DecidableEq α] [DecidableEq β] (f : α → β → Nat) (k : α) (j : β) (v : Nat) :
    upd2 f k j v k j = v := by simp [upd2]
theorem upd2_ne1 {α β : Type} [DecidableEq α] [DecidableEq β] (f : α → β → Nat) (k x : α) (j y : β) (v : Nat) (h : x ≠ k) :
    upd2 f k j v x y = f x y := by simp [upd2, h]
theorem upd2_ne2 {α β : Type} [DecidableEq α] [DecidableEq β] (f : α → β → Nat) (k x : α) (j y : β) (v : Nat) (h : y ≠ j) :
    upd2 f k j v x y = f x y := by simp [upd2, h]

theorem upd2_move {α : Type} [DecidableEq α] (f : α → Nat → Nat) (k : α) (src dst a x : Nat) (h : a ≤ f k src) :
    upd2 (upd2 f k src (f k src - a)) k dst ((upd2 f k src (f k src - a)) k dst + a) k x + (if x = src then a else 0)
      = f k x + (if x = dst then a else 0) := by
  simp only [upd2, true_and]
  by_cases hs : x = src
  · subst hs
    by_cases hd : x = dst
    · subst hd; simp; omega
    · simp [hd]; omega
  · by_cases hd : x = dst
    · subst hd; simp [hs]
    · simp [hs, hd]

/-! ### the four measured quantities -/

def ts (s : State) (t : Nat) : Nat := s.tsupply t            -- ERC20 total supply
def tm (s : State) (t : Nat) : Nat := s.tbal t modAcct       -- ERC20 balance of the module
def bs (s : State) (d : String) : Nat := s.bsupply d         -- bank supply
def mb (s : State) (d : String) : Nat := s.bbal d modAcct    -- bank balance of the module (escrow)

/-- no bank supply of an "erc20/…" denom exists without its mapping -/
def NoOrphan (s : State) : Prop := ∀ t, (∀ m ∈ s.reg, m.denom ≠ ercDenom t) → s.bsupply (ercDenom t) = 0

def Inv' (s : State) : Prop := Inv s ∧ NoOrphan s

structure SameFrame (s s' : State) : Prop where
  reg : s'.reg = s.reg
  ntok : s'.ntok = s.ntok
  kind : s'.kind = s.kind

theorem SameFrame.trans {a b c : State} (h1 : SameFrame a b) (h2 : SameFrame b c) : SameFrame a c :=
  ⟨h2.reg.trans h1.reg, h2.ntok.trans h1.ntok, h2.kind.trans h1.kind⟩

theorem SameFrame.refl (a : State) : SameFrame a a := ⟨rfl, rfl, rfl⟩

theorem ite_le_self (c : Prop) [Decidable c] (a : Nat) : (if c then a else 0) ≤ a := by split <;> omega

/-! ### effects of the primitives on the measures -/

theorem bankMove_eff {s s' : State} {d : String} {src dst a : Nat} (h : bankMove s d src dst a = some s') :
    SameFrame s s' ∧ (∀ t, ts s' t = ts s t) ∧ (∀ t, tm s' t = tm s t) ∧ (∀ x, bs s' x = bs s x) ∧
    (∀ x, x ≠ d → mb s' x = mb s x) ∧
    (mb s' d + (if modAcct = src then a else 0) = mb s d + (if modAcct = dst then a else 0)) ∧ a ≤ s.bbal d src ∧
    s'.tbal = s.tbal ∧ s'.tsupply = s.tsupply ∧ s'.bsupply = s.bsupply := by
  unfold bankMove at h
  split at h
  · cases h
  · rename_i hlt
    injection h with h
    subst h
    refine ⟨⟨rfl, rfl, rfl⟩, fun _ => rfl, fun _ => rfl, fun _ => rfl, ?_, ?_, by omega, rfl, rfl, rfl⟩
    · intro x hx
      simp [mb, upd2, hx]
    · exact upd2_move s.bbal d src dst a modAcct (by omega)

theorem bankMint_eff (s : State) (d : String) (a : Nat) :
    SameFrame s (bankMint s d a) ∧ (∀ t, ts (bankMint s d a) t = ts s t) ∧ (∀ t, tm (bankMint s d a) t = tm s t) ∧
    (∀ x, x ≠ d → bs (bankMint s d a) x = bs s x) ∧ (∀ x, x ≠ d → mb (bankMint s d a) x = mb s x) ∧
    bs (bankMint s d a) d = bs s d + a ∧ mb (bankMint s d a) d = mb s d + a := by
  refine ⟨⟨rfl, rfl, rfl⟩, fun _ => rfl, fun _ => rfl, ?_, ?_, ?_, ?_⟩
  · intro x hx; simp [bs, bankMint, upd, hx]
  · intro x hx; simp [mb, bankMint, upd2, hx]
  · simp [bs, bankMint]
  · simp [mb, bankMint]

theorem bankBurn_eff {s s' : State} {d : String} {a : Nat} (h : bankBurn s d a = some s') :
    SameFrame s s' ∧ (∀ t, ts s' t = ts s t) ∧ (∀ t, tm s' t = tm s t) ∧
    (∀ x, x ≠ d → bs s' x = bs s x) ∧ (∀ x, x ≠ d → mb s' x = mb s x) ∧
    bs s' d = bs s d - a ∧ mb s' d = mb s d - a ∧ a ≤ mb s d := by
  unfold bankBurn at h
  split at h
  · cases h
  · rename_i hlt
    injection h with h
    subst h
    refine ⟨⟨rfl, rfl, rfl⟩, fun _ => rfl, fun _ => rfl, ?_, ?_, ?_, ?_, ?_⟩
    · intro x hx; simp [bs, upd, hx]
    · intro x hx; simp [mb, upd2, hx]
    · simp [bs]
    · simp [mb]
    · simp only [mb]; omega

theorem tokMint_eff (s : State) (t dst a : Nat) :
    SameFrame s (tokMint s t dst a) ∧ (∀ x, bs (tokMint s t dst a) x = bs s x) ∧ (∀ x, mb (tokMint s t dst a) x = mb s x) ∧
    (∀ x, x ≠ t → ts (tokMint s t dst a) x = ts s x) ∧ (∀ x, x ≠ t → tm (tokMint s t dst a) x = tm s x) ∧
    ts (tokMint s t dst a) t = ts s t + a ∧ tm s t ≤ tm (tokMint s t dst a) t := by
  refine ⟨⟨rfl, rfl, rfl⟩, fun _ => rfl, fun _ => rfl, ?_, ?_, ?_, ?_⟩
  · intro x hx; simp [ts, tokMint, upd, hx]
  · intro x hx; simp [tm, tokMint, upd2, hx]
  · simp [ts, tokMint]
  · by_cases c : modAcct = dst
    · subst c; simp [tm, tokMint]
    · simp [tm, tokMint, upd2, c]

theorem tokBurn_eff {s s' : State} {t src a : Nat} (h : tokBurn s t src a = some s') :
    SameFrame s s' ∧ (∀ x, bs s' x = bs s x) ∧ (∀ x, mb s' x = mb s x) ∧
    (∀ x, x ≠ t → ts s' x = ts s x) ∧ (∀ x, x ≠ t → tm s' x = tm s x) ∧
    ts s' t = ts s t - a ∧ (src ≠ modAcct → tm s' t = tm s t) ∧ (src = modAcct → tm s' t = tm s t - a) := by
  unfold tokBurn at h
  split at h
  · cases h
  · injection h with h
    subst h
    refine ⟨⟨rfl, rfl, rfl⟩, fun _ => rfl, fun _ => rfl, ?_, ?_, ?_, ?_, ?_⟩
    · intro x hx; simp [ts, upd, hx]
    · intro x hx; simp [tm, upd2, hx]
    · simp [ts]
    · intro hs; simp [tm, upd2, Ne.symm hs]
    · intro hs; subst hs; simp [tm]

theorem tokMove_eff {s s' : State} {t src dst a : Nat} (h : tokMove s t src dst a = some s') :
    SameFrame s s' ∧ (∀ x, bs s' x = bs s x) ∧ (∀ x, mb s' x = mb s x) ∧ (∀ x, ts s' x = ts s x) ∧
    (∀ x, x ≠ t → tm s' x = tm s x) ∧
    (tm s' t + (if modAcct = src then a else 0) = tm s t + (if modAcct = dst then a else 0)) ∧
    (∀ x y, x ≠ t → s'.tbal x y = s.tbal x y) ∧ s'.kind = s.kind := by
  unfold tokMove at h
  split at h
  · cases h
  · injection h with h
    subst h
    refine ⟨⟨rfl, rfl, rfl⟩, fun _ => rfl, fun _ => rfl, fun _ => rfl, ?_, ?_, ?_, rfl⟩
    · intro x hx; simp [tm, upd2, hx]
    · exact upd2_move s.tbal t src dst a modAcct (by omega)
    · intro x y hx; simp [upd2, hx]

/-- an ERC20 transfer never changes the total supply; the module's balance cannot fall unless the module is the sender, and then
    by at most the amount (this is the "standard token" behaviour the property speaks of) -/
theorem tokTransferRaw_eff {s s' : State} {t src dst a : Nat} (h : tokTransferRaw s t src dst a = some s') :
    SameFrame s s' ∧ (∀ x, bs s' x = bs s x) ∧ (∀ x, mb s' x = mb s x) ∧ (∀ x, ts s' x = ts s x) ∧
    (∀ x, x ≠ t → tm s' x = tm s x) ∧ (src ≠ modAcct → tm s t ≤ tm s' t) ∧ (tm s t - a ≤ tm s' t) := by
  unfold tokTransferRaw at h
  split at h
  · -- fee token: two moves
    split at h
    · cases h
    · split at h
      · cases h
      · cases h1 : tokMove s t src (tokSelf t) (a * 10 / 100) with
        | none => simp [h1] at h
        | some s1 =>
          simp only [h1, Option.bind_some] at h
          obtain ⟨f1, b1, m1, t1, o1, e1, _, _⟩ := tokMove_eff h1
          obtain ⟨f2, b2, m2, t2, o2, e2, _, _⟩ := tokMove_eff h
          have hf : a * 10 / 100 ≤ a := by omega
          refine ⟨f1.trans f2, fun x => (b2 x).trans (b1 x), fun x => (m2 x).trans (m1 x), fun x => (t2 x).trans (t1 x),
            fun x hx => (o2 x hx).trans (o1 x hx), ?_, ?_⟩
          · intro hs
            have hs' : ¬ modAcct = src := fun e => hs e.symm
            rw [if_neg hs'] at e1 e2
            omega
          · have s1 := ite_le_self (modAcct = src) (a * 10 / 100)
            have s2 := ite_le_self (modAcct = src) (a - a * 10 / 100)
            omega
  · obtain ⟨f1, b1, m1, t1, o1, e1, _, _⟩ := tokMove_eff h
    refine ⟨f1, b1, m1, t1, o1, ?_, ?_⟩
    · intro hs
      have hs' : ¬ modAcct = src := fun e => hs e.symm
      rw [if_neg hs'] at e1
      omega
    · have s1 := ite_le_self (modAcct = src) a
      omega

theorem keeperTransfer_eff {s s' : State} {t src dst a got : Nat} (h : keeperTransfer s t src dst a = some (s', got)) :
    tokTransferRaw s t src dst a = some s' ∧ got = s'.tbal t dst - s.tbal t dst ∧ s.tbal t dst < s'.tbal t dst := by
  unfold keeperTransfer at h
  cases hr : tokTransferRaw s t src dst a with
  | none => simp [hr] at h
  | some s1 =>
    simp only [hr] at h
    split at h
    · cases h
    · injection h with h
      injection h with h1 h2
      subst h1
      exact ⟨rfl, h2.symm, by omega⟩

/-! ### lookups -/

theorem findByTok_some {s : State} {t : Nat} {m : Mapping} (h : findByTok s t = some m) : m ∈ s.reg ∧ m.tok = t := by
  unfold findByTok at h
  exact ⟨List.mem_of_find?_eq_some h, by simpa using List.find?_some h⟩

theorem findByDenom_some {s : State} {d : String} {m : Mapping} (h : findByDenom s d = some m) : m ∈ s.reg ∧ m.denom = d := by
  unfold findByDenom at h
  exact ⟨List.mem_of_find?_eq_some h, by simpa using List.find?_some h⟩

theorem findByDenom_none {s : State} {d : String} (h : findByDenom s d = none) : ∀ m ∈ s.reg, m.denom ≠ d := by
  unfold findByDenom at h
  intro m hm
  have := List.find?_eq_none.mp h m hm
  simpa using this

theorem findByTok_none {s : State} {t : Nat} (h : findByTok s t = none) : ∀ m ∈ s.reg, m.tok ≠ t := by
  unfold findByTok at h
  intro m hm
  have := List.find?_eq_none.mp h m hm
  simpa using this

theorem nodup_map_inj {α β : Type} {f : α → β} {l : List α} (h : (l.map f).Nodup) {a b : α} (ha : a ∈ l) (hb : b ∈ l)
    (hab : f a = f b) : a = b := by
  induction l with
  | nil => cases ha
  | cons x t ih =>
    simp only [List.map_cons, List.nodup_cons, List.mem_map, not_exists, not_and] at h
    rcases List.mem_cons.mp ha with rfl | ha' <;> rcases List.mem_cons.mp hb with rfl | hb'
    · rfl
    · exact absurd hab.symm (h.1 b hb')
    · exact absurd hab (h.1 a ha')
    · exact ih h.2 ha' hb'

/-! ### two ways to re-establish the invariant -/

/-- operations that touch no mapping: supplies may only fall, the module's holdings may only rise -/
theorem inv_mono {s s' : State} (hf : SameFrame s s') (hi : Inv' s)
    (h1 : ∀ t, ts s' t ≤ ts s t) (h2 : ∀ d, mb s d ≤ mb s' d) (h3 : ∀ d, bs s' d ≤ bs s d) (h4 : ∀ t, tm s t ≤ tm s' t) : Inv' s' := by
  obtain ⟨⟨hc, he, hu, hw⟩, ho⟩ := hi
  refine ⟨⟨?_, ?_, ?_, ?_⟩, ?_⟩
  · intro m hm hcoin
    rw [hf.reg] at hm
    have := hc m hm hcoin
    have a1 := h1 m.tok; have a2 := h2 m.denom
    simp only [ts, mb] at a1 a2
    omega
  · intro m hm hcoin
    rw [hf.reg] at hm
    have := he m hm hcoin
    have a3 := h3 m.denom; have a4 := h4 m.tok
    simp only [bs, tm] at a3 a4
    omega
  · unfold Unique; rw [hf.reg]; exact hu
  · intro m hm; rw [hf.reg] at hm; rw [hf.ntok, hf.kind]; exact hw m hm
  · intro t hno
    rw [hf.reg] at hno
    have := ho t hno
    have a3 := h3 (ercDenom t)
    simp only [bs] at a3
    omega

/-- operations on one mapping `m`: everything about other tokens and other denoms is untouched, and `m` stays backed -/
theorem inv_local {s s' : State} (hf : SameFrame s s') (hi : Inv' s) (m : Mapping) (hm : m ∈ s.reg)
    (e1 : ∀ t, t ≠ m.tok → ts s' t = ts s t ∧ tm s' t = tm s t)
    (e2 : ∀ d, d ≠ m.denom → mb s' d = mb s d ∧ bs s' d = bs s d)
    (hcoin : m.fromCoin = true → ts s' m.tok ≤ mb s' m.denom)
    (herc : m.fromCoin = false → bs s' m.denom ≤ tm s' m.tok) : Inv' s' := by
  obtain ⟨⟨hc, he, hu, hw⟩, ho⟩ := hi
  have other : ∀ m' ∈ s.reg, m' ≠ m → m'.tok ≠ m.tok ∧ m'.denom ≠ m.denom := by
    intro m' hm' hne
    exact ⟨fun e => hne (nodup_map_inj hu.1 hm' hm e), fun e => hne (nodup_map_inj hu.2 hm' hm e)⟩
  refine ⟨⟨?_, ?_, ?_, ?_⟩, ?_⟩
  · intro m' hm' hc'
    rw [hf.reg] at hm'
    by_cases hmm : m' = m
    · subst hmm; have := hcoin hc'; simpa [ts, mb] using this
    · obtain ⟨ht, hd⟩ := other m' hm' hmm
      have a := (e1 m'.tok ht).1; have b := (e2 m'.denom hd).1
      have := hc m' hm' hc'
      simp only [ts, mb] at a b
      omega
  · intro m' hm' hc'
    rw [hf.reg] at hm'
    by_cases hmm : m' = m
    · subst hmm; have := herc hc'; simpa [bs, tm] using this
    · obtain ⟨ht, hd⟩ := other m' hm' hmm
      have a := (e1 m'.tok ht).2; have b := (e2 m'.denom hd).2
      have := he m' hm' hc'
      simp only [bs, tm] at a b
      omega
  · unfold Unique; rw [hf.reg]; exact hu
  · intro m' hm'; rw [hf.reg] at hm'; rw [hf.ntok, hf.kind]; exact hw m' hm'
  · intro t hno
    rw [hf.reg] at hno
    have hne : ercDenom t ≠ m.denom := fun e => hno m hm e.symm
    have := ho t hno
    have b := (e2 (ercDenom t) hne).2
    simp only [bs] at b
    omega

/-! ### every operation preserves the invariant -/

theorem createCoin_preserves (s s' : State) (d : String) (hi : Inv' s) (h : exec s (.createCoin d) = some s') : Inv' s' := by
  obtain ⟨⟨hc, he, hu, hw⟩, ho⟩ := hi
  simp only [exec] at h
  split at h
  · cases h
  · rename_i hnone
    split at h
    · cases h
    · injection h with h
      subst h
      have hnone' : findByDenom s d = none := by
        cases hf : findByDenom s d with
        | none => rfl
        | some m => simp [hf] at hnone
      have hdn := findByDenom_none hnone'
      have hlt : ∀ m ∈ s.reg, m.tok ≠ s.ntok := fun m hm e => by have := (hw m hm).1; omega
      refine ⟨⟨?_, ?_, ?_, ?_⟩, ?_⟩
      · intro m hm hcoin
        rcases List.mem_append.mp hm with hm | hm
        · have := hc m hm hcoin
          simpa [upd, hlt m hm] using this
        · simp only [List.mem_singleton] at hm
          subst hm
          simp [upd]
      · intro m hm hcoin
        rcases List.mem_append.mp hm with hm | hm
        · have := he m hm hcoin
          simpa [hlt m hm] using this
        · simp only [List.mem_singleton] at hm
          subst hm
          simp at hcoin
      · constructor
        · simp only [List.map_append, List.map_cons, List.map_nil]
          refine List.nodup_append.mpr ⟨hu.1, by simp, ?_⟩
          intro a ha b hb
          simp only [List.mem_singleton] at hb
          subst hb
          obtain ⟨m, hm, rfl⟩ := List.mem_map.mp ha
          exact hlt m hm
        · simp only [List.map_append, List.map_cons, List.map_nil]
          refine List.nodup_append.mpr ⟨hu.2, by simp, ?_⟩
          intro a ha b hb
          simp only [List.mem_singleton] at hb
          subst hb
          obtain ⟨m, hm, rfl⟩ := List.mem_map.mp ha
          exact hdn m hm
      · intro m hm
        rcases List.mem_append.mp hm with hm | hm
        · obtain ⟨a, b, c⟩ := hw m hm
          refine ⟨by simp only; omega, ?_, ?_⟩
          · intro hcoin; simp [hlt m hm, b hcoin]
          · intro hcoin; simp [hlt m hm, c hcoin]
        · simp only [List.mem_singleton] at hm
          subst hm
          simp
      · intro t hno
        exact ho t (fun m hm => hno m (List.mem_append.mpr (Or.inl hm)))

theorem createErc20_preserves (s s' : State) (t : Nat) (hi : Inv' s) (h : exec s (.createErc20 t) = some s') : Inv' s' := by
  obtain ⟨⟨hc, he, hu, hw⟩, ho⟩ := hi
  simp only [exec] at h
  split at h
  · cases h
  · rename_i h1
    split at h
    · cases h
    · rename_i h2
      split at h
      · cases h
      · rename_i h3
        split at h
        · cases h
        · split at h
          · cases h
          · rename_i h5
            injection h with h
            subst h
            have n1 : findByTok s t = none := by
              cases hf : findByTok s t with
              | none => rfl
              | some m => simp [hf] at h1
            have n2 : findByDenom s (ercDenom t) = none := by
              cases hf : findByDenom s (ercDenom t) with
              | none => rfl
              | some m => simp [hf] at h5
            have ht := findByTok_none n1
            have hd := findByDenom_none n2
            refine ⟨⟨?_, ?_, ?_, ?_⟩, ?_⟩
            · intro m hm hcoin
              rcases List.mem_append.mp hm with hm | hm
              · exact hc m hm hcoin
              · simp only [List.mem_singleton] at hm
                subst hm
                simp at hcoin
            · intro m hm hcoin
              rcases List.mem_append.mp hm with hm | hm
              · exact he m hm hcoin
              · simp only [List.mem_singleton] at hm
                subst hm
                have := ho t hd
                simp only
                omega
            · constructor
              · simp only [List.map_append, List.map_cons, List.map_nil]
                refine List.nodup_append.mpr ⟨hu.1, by simp, ?_⟩
                intro a ha b hb
                simp only [List.mem_singleton] at hb
                subst hb
                obtain ⟨m, hm, rfl⟩ := List.mem_map.mp ha
                exact ht m hm
              · simp only [List.map_append, List.map_cons, List.map_nil]
                refine List.nodup_append.mpr ⟨hu.2, by simp, ?_⟩
                intro a ha b hb
                simp only [List.mem_singleton] at hb
                subst hb
                obtain ⟨m, hm, rfl⟩ := List.mem_map.mp ha
                exact hd m hm
            · intro m hm
              rcases List.mem_append.mp hm with hm | hm
              · exact hw m hm
              · simp only [List.mem_singleton] at hm
                subst hm
                refine ⟨by simp only; omega, by simp, ?_⟩
                intro _
                simpa using h3
            · intro t' hno
              exact ho t' (fun m hm => hno m (List.mem_append.mpr (Or.inl hm)))

theorem bankMove_preserves {s s' : State} {d : String} {src dst a : Nat} (hi : Inv' s) (hs : src ≠ modAcct)
    (h : bankMove s d src dst a = some s') : Inv' s' := by
  obtain ⟨f, t1, t2, b1, m1, e, _, _, _, _⟩ := bankMove_eff h
  have hs' : ¬ modAcct = src := fun x => hs x.symm
  rw [if_neg hs'] at e
  refine inv_mono f hi (fun t => Nat.le_of_eq (t1 t)) ?_ (fun x => Nat.le_of_eq (b1 x)) (fun t => Nat.le_of_eq (t2 t).symm)
  intro x
  by_cases hx : x = d
  · subst hx; omega
  · exact Nat.le_of_eq (m1 x hx).symm

theorem convert_preserves (s s' : State) (sender : Nat) (d : String) (a dst : Nat) (hw : sender ≠ modAcct) (hi : Inv' s)
    (h : exec s (.convert sender d a dst) = some s') : Inv' s' := by
  simp only [exec] at h
  cases hf : findByDenom s d with
  | none => simp [hf] at h
  | some m =>
    simp only [hf] at h
    obtain ⟨hm, hd⟩ := findByDenom_some hf
    have hs' : ¬ modAcct = sender := fun x => hw x.symm
    split at h
    · -- coin-born: escrow, then mint
      rename_i hcoin
      cases h1 : bankMove s d sender modAcct a with
      | none => simp [h1] at h
      | some s1 =>
        simp only [h1, Option.map_some, Option.some.injEq] at h
        subst h
        obtain ⟨f1, t1, tm1, b1, m1, e1, _, _, _, _⟩ := bankMove_eff h1
        rw [if_neg hs', if_pos rfl] at e1
        obtain ⟨f2, b2, m2, o2, om2, e2, g2⟩ := tokMint_eff s1 m.tok dst a
        refine inv_local (f1.trans f2) hi m hm ?_ ?_ ?_ ?_
        · intro t ht; exact ⟨(o2 t ht).trans (t1 t), (om2 t ht).trans (tm1 t)⟩
        · intro x hx; rw [hd] at hx; exact ⟨(m2 x).trans (m1 x hx), (b2 x).trans (b1 x)⟩
        · intro _
          have := hi.1.1 m hm hcoin
          rw [hd] at this ⊢
          have k := m2 d
          have k2 := t1 m.tok
          simp only [ts, mb] at *
          omega
        · intro hne; rw [hcoin] at hne; cases hne
    · -- ERC20-born: escrow, burn the coin, release the ERC20
      rename_i hcoin
      have hcoin' : m.fromCoin = false := by simpa using hcoin
      cases h1 : bankMove s d sender modAcct a with
      | none => simp [h1] at h
      | some s1 =>
        simp only [h1] at h
        cases h2 : bankBurn s1 d a with
        | none => simp [h2] at h
        | some s2 =>
          simp only [h2] at h
          cases h3 : keeperTransfer s2 m.tok modAcct dst a with
          | none => simp [h3] at h
          | some r =>
            obtain ⟨s3, got⟩ := r
            simp only [h3, Option.map_some, Option.some.injEq] at h
            subst h
            obtain ⟨f1, t1, tm1, b1, m1, e1, _, _, _, _⟩ := bankMove_eff h1
            obtain ⟨f2, t2, tm2, b2, m2, eb2, em2, _⟩ := bankBurn_eff h2
            obtain ⟨hraw, _, _⟩ := keeperTransfer_eff h3
            obtain ⟨f3, b3, m3, t3, o3, _, low3⟩ := tokTransferRaw_eff hraw
            refine inv_local ((f1.trans f2).trans f3) hi m hm ?_ ?_ ?_ ?_
            · intro t ht; exact ⟨((t3 t).trans (t2 t)).trans (t1 t), ((o3 t ht).trans (tm2 t)).trans (tm1 t)⟩
            · intro x hx; rw [hd] at hx
              exact ⟨((m3 x).trans (m2 x hx)).trans (m1 x hx), ((b3 x).trans (b2 x hx)).trans (b1 x)⟩
            · intro hc; rw [hcoin'] at hc; cases hc
            · intro _
              have := hi.1.2.1 m hm hcoin'
              rw [hd] at this ⊢
              have k1 := b3 d; have k2 := b1 d; have k3 := tm2 m.tok; have k4 := tm1 m.tok
              simp only [ts, mb, bs, tm] at *
              omega

theorem sendToBank_preserves (s s' : State) (caller t a dst : Nat) (hw : caller ≠ modAcct) (hi : Inv' s)
    (h : exec s (.sendToBank caller t a dst) = some s') : Inv' s' := by
  simp only [exec] at h
  cases hf : findByTok s t with
  | none => simp [hf] at h
  | some m =>
    simp only [hf] at h
    obtain ⟨hm, ht⟩ := findByTok_some hf
    split at h
    · cases h
    · cases h1 : keeperTransfer s t caller modAcct a with
      | none => simp [h1] at h
      | some r =>
        obtain ⟨s1, got⟩ := r
        simp only [h1] at h
        obtain ⟨hraw, hgot, hinc⟩ := keeperTransfer_eff h1
        obtain ⟨f1, b1, m1, t1, o1, _, _⟩ := tokTransferRaw_eff hraw
        have hgot' : tm s1 t = tm s t + got := by simp only [tm]; omega
        by_cases hcoin : m.fromCoin = true
        · -- coin-born: burn what the module received, release the coin
          simp only [hcoin, if_true] at h
          cases h2 : tokBurn s1 t modAcct got with
          | none => simp [h2] at h
          | some s2 =>
            simp only [h2] at h
            split at h
            · cases h
            · rename_i hblk
              obtain ⟨f2, b2, m2, o2, om2, e2, _, em2⟩ := tokBurn_eff h2
              obtain ⟨f3, t3, tm3, b3, m3, e3, hle3, _, _, _⟩ := bankMove_eff h
              have hd0 : ¬ modAcct = dst := by
                intro e; apply hblk; simp [blocked, e.symm]
              rw [if_pos rfl, if_neg hd0] at e3
              refine inv_local ((f1.trans f2).trans f3) hi m hm ?_ ?_ ?_ ?_
              · intro x hx; rw [ht] at hx
                exact ⟨((t3 x).trans (o2 x hx)).trans (t1 x), ((tm3 x).trans (om2 x hx)).trans (o1 x hx)⟩
              · intro x hx
                exact ⟨((m3 x hx).trans (m2 x)).trans (m1 x), ((b3 x).trans (b2 x)).trans (b1 x)⟩
              · intro _
                have := hi.1.1 m hm hcoin
                rw [ht] at this ⊢
                have k1 := t3 t; have k2 := t1 t; have k3 := m2 m.denom; have k4 := m1 m.denom
                simp only [ts, mb] at *
                omega
              · intro hne; rw [hcoin] at hne; cases hne
        · -- ERC20-born: mint the coin for what the module received, send it out
          have hcoin' : m.fromCoin = false := by simpa using hcoin
          simp only [hcoin', Bool.false_eq_true, if_false] at h
          split at h
          · cases h
          · rename_i hblk
            obtain ⟨f2, t2, tm2, ob2, om2, eb2, emb2⟩ := bankMint_eff s1 m.denom got
            obtain ⟨f3, t3, tm3, b3, m3, e3, _, _, _, _⟩ := bankMove_eff h
            have hd0 : ¬ modAcct = dst := by
              intro e; apply hblk; simp [blocked, e.symm]
            rw [if_pos rfl, if_neg hd0] at e3
            refine inv_local ((f1.trans f2).trans f3) hi m hm ?_ ?_ ?_ ?_
            · intro x hx; rw [ht] at hx
              exact ⟨((t3 x).trans (t2 x)).trans (t1 x), ((tm3 x).trans (tm2 x)).trans (o1 x hx)⟩
            · intro x hx
              exact ⟨((m3 x hx).trans (om2 x hx)).trans (m1 x), ((b3 x).trans (ob2 x hx)).trans (b1 x)⟩
            · intro hc; rw [hcoin'] at hc; cases hc
            · intro _
              have := hi.1.2.1 m hm hcoin'
              rw [ht] at this ⊢
              have k1 := b3 m.denom; have k2 := b1 m.denom; have k3 := tm3 t; have k4 := tm2 t
              simp only [ts, mb, bs, tm] at *
              omega

theorem sendToEvm_preserves (s s' : State) (caller : Nat) (d : String) (a dst : Nat) (hw : caller ≠ modAcct) (hi : Inv' s)
    (h : exec s (.sendToEvm caller d a dst) = some s') : Inv' s' := by
  simp only [exec] at h
  cases hf : findByDenom s d with
  | none => simp [hf] at h
  | some m =>
    simp only [hf] at h
    obtain ⟨hm, hd⟩ := findByDenom_some hf
    have hs' : ¬ modAcct = caller := fun x => hw x.symm
    split at h
    · cases h
    · cases h1 : bankMove s d caller modAcct a with
      | none => simp [h1] at h
      | some s1 =>
        simp only [h1] at h
        obtain ⟨f1, t1, tm1, b1, m1, e1, _, _, _, _⟩ := bankMove_eff h1
        rw [if_neg hs', if_pos rfl] at e1
        split at h
        · rename_i hcoin
          injection h with h
          subst h
          obtain ⟨f2, b2, m2, o2, om2, e2, g2⟩ := tokMint_eff s1 m.tok dst a
          refine inv_local (f1.trans f2) hi m hm ?_ ?_ ?_ ?_
          · intro t ht; exact ⟨(o2 t ht).trans (t1 t), (om2 t ht).trans (tm1 t)⟩
          · intro x hx; rw [hd] at hx; exact ⟨(m2 x).trans (m1 x hx), (b2 x).trans (b1 x)⟩
          · intro _
            have := hi.1.1 m hm hcoin
            rw [hd] at this ⊢
            have k := m2 d
            have k2 := t1 m.tok
            simp only [ts, mb] at *
            omega
          · intro hne; rw [hcoin] at hne; cases hne
        · rename_i hcoin
          have hcoin' : m.fromCoin = false := by simpa using hcoin
          cases h3 : keeperTransfer s1 m.tok modAcct dst a with
          | none => simp [h3] at h
          | some r =>
            obtain ⟨s2, got⟩ := r
            simp only [h3] at h
            obtain ⟨hraw, _, _⟩ := keeperTransfer_eff h3
            obtain ⟨f2, b2, m2, t2, o2, _, low2⟩ := tokTransferRaw_eff hraw
            obtain ⟨f3, t3, tm3, b3, m3, eb3, em3, _⟩ := bankBurn_eff h
            refine inv_local ((f1.trans f2).trans f3) hi m hm ?_ ?_ ?_ ?_
            · intro t ht; exact ⟨((t3 t).trans (t2 t)).trans (t1 t), ((tm3 t).trans (o2 t ht)).trans (tm1 t)⟩
            · intro x hx; rw [hd] at hx
              exact ⟨((m3 x hx).trans (m2 x)).trans (m1 x hx), ((b3 x hx).trans (b2 x)).trans (b1 x)⟩
            · intro hc; rw [hcoin'] at hc; cases hc
            · intro _
              have := hi.1.2.1 m hm hcoin'
              rw [hd] at this ⊢
              have k1 := b2 d; have k2 := b1 d; have k3 := tm3 m.tok; have k4 := tm1 m.tok
              simp only [ts, mb, bs, tm] at *
              omega

/-- **C06 (one step).** Every operation not signed / called by the module account keeps every mapping backed and unique. -/
theorem exec_preserves (s s' : State) (o : Op) (hw : o.WF) (hi : Inv' s) (h : exec s o = some s') : Inv' s' := by
  cases o with
  | createCoin d => exact createCoin_preserves s s' d hi h
  | createErc20 t => exact createErc20_preserves s s' t hi h
  | convert sender d a dst => exact convert_preserves s s' sender d a dst hw hi h
  | sendToBank caller t a dst => exact sendToBank_preserves s s' caller t a dst hw hi h
  | sendToEvm caller d a dst => exact sendToEvm_preserves s s' caller d a dst hw hi h
  | bankMsgSend caller dst d a =>
    simp only [exec] at h
    split at h
    · cases h
    · split at h
      · cases h
      · exact bankMove_preserves hi hw h
  | send src dst d a =>
    simp only [exec] at h
    split at h
    · cases h
    · split at h
      · cases h
      · exact bankMove_preserves hi hw h
  | transfer t src dst a =>
    simp only [exec] at h
    obtain ⟨f, b, m, tt, o, up, _⟩ := tokTransferRaw_eff h
    refine inv_mono f hi (fun x => Nat.le_of_eq (tt x)) (fun x => Nat.le_of_eq (m x).symm) (fun x => Nat.le_of_eq (b x)) ?_
    intro x
    by_cases hx : x = t
    · subst hx; exact up hw
    · exact Nat.le_of_eq (o x hx).symm
  | burn t src a =>
    simp only [exec] at h
    split at h
    · obtain ⟨f, b, m, o, om, e, same, _⟩ := tokBurn_eff h
      refine inv_mono f hi ?_ (fun x => Nat.le_of_eq (m x).symm) (fun x => Nat.le_of_eq (b x)) ?_
      · intro x
        by_cases hx : x = t
        · subst hx; omega
        · exact Nat.le_of_eq (o x hx)
      · intro x
        by_cases hx : x = t
        · subst hx; exact Nat.le_of_eq (same hw).symm
        · exact Nat.le_of_eq (om x hx).symm
    · cases h
  | reverted inner => simp [exec] at h

theorem step_preserves (s : State) (o : Op) (hw : o.WF) (hi : Inv' s) : Inv' (step s o) := by
  unfold step
  cases h : exec s o with
  | none => simpa using hi
  | some s' => simpa using exec_preserves s s' o hw hi h

/-- **C06 (all histories).** From any state in which every mapping is backed and unique, after every history of FunToken
    creations, conversions in both directions (message and precompile, also inside frames that revert), bankMsgSend, direct ERC20
    transfers and burns and bank sends — with any amounts, recipients and senders other than the module account itself —
    every coin-born mapping has ERC20 total supply ≤ escrowed coin, every ERC20-born mapping has bank supply ≤ the module's ERC20
    balance, and each ERC20 and each denom belongs to at most one mapping. -/
theorem C06_backing_invariant (s : State) (ops : List Op) (hw : ∀ o ∈ ops, o.WF) (hi : Inv' s) : Inv' (run s ops) := by
  induction ops generalizing s with
  | nil => exact hi
  | cons o t ih =>
    simp only [run, List.foldl_cons]
    exact ih (step s o) (fun o' ho' => hw o' (List.mem_cons_of_mem _ ho')) (step_preserves s o (hw o (List.mem_cons_self ..)) hi)

theorem C06_coin_born_backed (s : State) (ops : List Op) (hw : ∀ o ∈ ops, o.WF) (hi : Inv' s) : BackedCoin (run s ops) :=
  (C06_backing_invariant s ops hw hi).1.1

theorem C06_erc20_born_backed (s : State) (ops : List Op) (hw : ∀ o ∈ ops, o.WF) (hi : Inv' s) : BackedErc20 (run s ops) :=
  (C06_backing_invariant s ops hw hi).1.2.1

theorem C06_unique_mapping (s : State) (ops : List Op) (hw : ∀ o ∈ ops, o.WF) (hi : Inv' s) : Unique (run s ops) :=
  (C06_backing_invariant s ops hw hi).1.2.2.1

/-- a chain without mappings and without "erc20/…" supply satisfies the invariant (the genesis of the property) -/
theorem C06_inv_initial (s : State) (h0 : s.reg = []) (h1 : ∀ t, s.bsupply (ercDenom t) = 0) : Inv' s := by
  refine ⟨⟨?_, ?_, ?_, ?_⟩, fun t _ => h1 t⟩
  · intro m hm; rw [h0] at hm; cases hm
  · intro m hm; rw [h0] at hm; cases hm
  · unfold Unique; rw [h0]; simp
  · intro m hm; rw [h0] at hm; cases hm

/-- an operation inside a frame that reverts leaves nothing behind -/
theorem C06_reverted_frame_no_change (s : State) (o : Op) : step s (.reverted o) = s := by
  simp [step, exec]

/-- a failing operation changes nothing -/
theorem C06_failed_no_change (s : State) (o : Op) (h : exec s o = none) : step s o = s := by
  simp [step, h]

/-- equality for standard tokens: a conversion out and back leaves supply and escrow where they were (non-vacuity of the
    invariant: the hypotheses are met by a concrete history with both kinds of mappings) -/
def demoState : State :=
  { ntok := 1, kind := fun _ => .std, hasMeta := fun d => d = "ulog",
    tbal := fun t a => if t = 0 ∧ a = 1 then 500 else 0, tsupply := fun t => if t = 0 then 500 else 0,
    bbal := fun d a => if d = "ulog" ∧ a = 1 then 100 else 0, bsupply := fun d => if d = "ulog" then 100 else 0 }

def demoOps : List Op :=
  [.createCoin "ulog", .createErc20 0, .convert 1 "ulog" 30 2, .sendToBank 1 0 40 3, .sendToEvm 3 "e0" 15 2,
   .sendToBank 2 1 10 1, .reverted (.sendToBank 2 1 5 1), .transfer 0 1 0 7]

example : (run demoState demoOps).reg.length = 2 ∧ (run demoState demoOps).tsupply 1 = 20 ∧
    (run demoState demoOps).bbal "ulog" modAcct = 20 ∧ (run demoState demoOps).bsupply "e0" = 25 ∧
    (run demoState demoOps).tbal 0 modAcct = 32 := by decide

/-! ### T1 (regenerated from x/evm on every run) -/

/-- the bank ledger the model speaks about is the one the StateDB mirrors: outside `bank_extension.go` (where the overrides
    delegate) only `Keeper.SetAccBalance` — the write-back of the StateDB itself — selects the embedded `BaseKeeper`; every
    FunToken flow moves coins through the `NibiruBankKeeper` overrides, which keep the in-flight StateDB in step with the bank -/
theorem fact_C06_bank_calls_go_through_the_wrapper :
    Generated.bankBaseKeeperBypassSites = ["x/evm/keeper:Keeper.SetAccBalance"] := rfl

/-- no FunToken flow builds a second StateDB in the middle of an execution: the only callers of the publishing constructor
    `Keeper.NewStateDB` are the five state-machine entry points. A precompile method that built its own (seed C06-15: `balance()`)
    would re-point `Keeper.Bank.StateDB`: the bank moves of the rest of the transaction would be mirrored into a throw-away StateDB
    and the real one would write stale balances back at `Commit` — the atomicity the model's operations assume. -/
theorem fact_C06_only_entry_points_publish_a_statedb :
    Generated.publishingConstructorCallers =
      ["x/evm/keeper:Keeper.EthereumTx", "x/evm/keeper:Keeper.convertCoinToEvmBornCoin", "x/evm/keeper:Keeper.convertCoinToEvmBornERC20",
       "x/evm/keeper:Keeper.createFunTokenFromERC20", "x/evm/keeper:Keeper.deployERC20ForBankCoin"] := rfl

end Nibiru.FunToken
