/-
  C03 — Nibiru EVM state transitions equal go-ethereum's on the same program.

  What is proved here (and what is not):
    * over the reference semantics NibiruModel.GethSpec (validated against the real go-ethereum StateDB on every run, and against
      Nibiru's real StateDB on the same call sequences): a `RevertToSnapshot` after any sequence of ordinary calls restores
      the transaction state exactly, whatever the calls were, and leaves the persisted state untouched; ordinary calls never
      touch the persisted state; nested snapshots behave like a stack;
    * over the model of Nibiru's implementation NibiruModel.StateDB (the journal): each journal entry's `Revert` is the exact
      inverse of the mutation that appended it, for the refund counter, logs, access list and for balance / nonce / code / storage /
      self-destruct of a cached state object (the "one entry per mutation, exact inverse" mechanism the property is anchored in);
    * the EIP-3529 refund computation of ApplyEvmMsg equals go-ethereum's for all inputs.
    * over the same model, for ANY sequence of write calls on cached accounts: Snapshot … RevertToSnapshot succeeds and restores
      every observable of the StateDB (balance, nonce, code hash, self-destruct flag, current and committed value of every slot,
      refund counter, log count, access list) — induction over the sequence (NibiruProofs/SDBRevert.lean);
    * the simulation NibiruModel.StateDB ~ GethSpec for ANY sequence of write calls, on lazily loaded accounts, accounts created by
      the first write, and accounts absent from the store (NibiruProofs/SDBSim.lean): after the sequence every account read, every
      `GetState` / `GetCommittedState`, the refund counter, the log count and the access list answer as the reference does;
    * `CreateAccount` preserves the same relation wherever the store holds no slots under the address (the case `evm.create`
      allows); with persisted slots the two implementations differ by design of Nibiru's object cache (see DESIGN.md);
    * a reverted frame — Snapshot, any write sequence on cached accounts, RevertToSnapshot — leaves the journaled model related to
      the reference after ITS revert (`C03_reverted_frame_simulates_reference_partial`), so frames can be chained;
  NOT proved: one statement over arbitrary frame trees (nested frames inside kept frames), and `Commit` on the reference
  side (what Nibiru's Commit persists is proved in SDBCommit.lean); there the observational equality rests on the three-way
  correspondence run.
  The interpreter itself is the same code on both sides and is trusted.
-/
import NibiruModel.GethSpec
import NibiruModel.StateDB
import NibiruProofs.SDBRevert
import NibiruProofs.SDBSim
import Generated.Facts

namespace Nibiru.GethSpec
open Nibiru

/-! ### reference semantics: snapshots -/

theorem apply_plain_frame (g : G) (o : Op) (h : o.plain = true) :
    (apply g o).1.base = g.base ∧ (apply g o).1.snaps = g.snaps ∧ (apply g o).1.next = g.next := by
  cases o <;> simp [Op.plain] at h
  all_goals first
    | (simp [apply, setObj]; done)
    | (simp only [apply]; split <;> simp [setObj])

def runOps (g : G) (ops : List Op) : G := ops.foldl (fun acc o => (apply acc o).1) g

theorem runOps_plain_frame (g : G) (ops : List Op) (h : ∀ o ∈ ops, o.plain = true) :
    (runOps g ops).base = g.base ∧ (runOps g ops).snaps = g.snaps ∧ (runOps g ops).next = g.next := by
  induction ops generalizing g with
  | nil => exact ⟨rfl, rfl, rfl⟩
  | cons o t ih =>
    simp only [runOps, List.foldl_cons]
    obtain ⟨a, b, c⟩ := apply_plain_frame g o (h o (List.mem_cons_self ..))
    obtain ⟨a', b', c'⟩ := ih (apply g o).1 (fun o' ho' => h o' (List.mem_cons_of_mem _ ho'))
    exact ⟨a'.trans a, b'.trans b, c'.trans c⟩

/-- snapshot identifiers handed out so far are below `next` -/
def IdsBelow (g : G) : Prop := ∀ r ∈ g.snaps, r.1 < g.next

theorem find_appended (l : List (Nat × Tx)) (n : Nat) (t : Tx) (h : ∀ r ∈ l, r.1 < n) :
    (l ++ [(n, t)]).find? (fun r => r.1 = n) = some (n, t) := by
  induction l with
  | nil => simp
  | cons x xs ih =>
    have hx : x.1 < n := h x (List.mem_cons_self ..)
    have : ¬ x.1 = n := by omega
    simp only [List.cons_append, List.find?_cons, this, decide_false]
    exact ih (fun r hr => h r (List.mem_cons_of_mem _ hr))

theorem filter_appended (l : List (Nat × Tx)) (n : Nat) (t : Tx) (h : ∀ r ∈ l, r.1 < n) :
    (l ++ [(n, t)]).filter (fun r => r.1 < n) = l := by
  rw [List.filter_append]
  have h1 : l.filter (fun r => decide (r.1 < n)) = l := List.filter_eq_self.mpr (fun r hr => by simpa using h r hr)
  simp [h1]

/-- **C03 (reference semantics, revert).** Take a snapshot, perform ANY sequence of ordinary interface calls (balance, nonce, code,
    storage writes, account creation, self-destruct, logs, refunds, access-list additions, reads), revert to the snapshot: the
    transaction state is exactly the one at the snapshot, the persisted state and the older snapshots are as they were. -/
theorem C03_spec_revert_restores (g : G) (hg : IdsBelow g) (ops : List Op) (h : ∀ o ∈ ops, o.plain = true) :
    let g1 := (apply g .snapshot).1
    let g2 := runOps g1 ops
    let r := apply g2 (.revert g.next)
    r.2 = "ok" ∧ r.1.tx = g.tx ∧ r.1.base = g.base ∧ r.1.snaps = g.snaps := by
  intro g1 g2 r
  have hg1 : g1 = { g with snaps := g.snaps ++ [(g.next, g.tx)], next := g.next + 1 } := rfl
  obtain ⟨hb, hs, _⟩ := runOps_plain_frame g1 ops h
  have hs2 : g2.snaps = g.snaps ++ [(g.next, g.tx)] := by rw [show g2 = runOps g1 ops from rfl, hs, hg1]
  have hb2 : g2.base = g.base := by rw [show g2 = runOps g1 ops from rfl, hb, hg1]
  have hfind := find_appended g.snaps g.next g.tx hg
  have hfil := filter_appended g.snaps g.next g.tx hg
  show (apply g2 (.revert g.next)).2 = "ok" ∧ (apply g2 (.revert g.next)).1.tx = g.tx ∧
    (apply g2 (.revert g.next)).1.base = g.base ∧ (apply g2 (.revert g.next)).1.snaps = g.snaps
  refine ⟨?_, ?_, ?_, ?_⟩ <;> simp [apply, hs2, hfind, hfil, hb2]

/-- ordinary calls never write the persisted state: only the end of the transaction does -/
theorem C03_spec_persisted_untouched_until_commit (g : G) (ops : List Op) (h : ∀ o ∈ ops, o.plain = true) :
    (runOps g ops).base = g.base := (runOps_plain_frame g ops h).1

/-- a reverted snapshot identifier (and every younger one) cannot be used again -/
theorem C03_spec_revert_consumes_id (g : G) (id : Nat) (h : (apply g (.revert id)).2 = "ok") :
    ∀ r ∈ (apply g (.revert id)).1.snaps, r.1 < id := by
  simp only [apply] at h ⊢
  cases hf : g.snaps.find? (fun r => r.1 = id) with
  | none => simp [hf] at h
  | some p =>
    obtain ⟨i, t⟩ := p
    simp only [hf]
    intro r hr
    simpa using (List.mem_filter.mp hr).2

/-! ### the gas refund of the state transition -/

/-- **C03 (refund).** Nibiru's `gasToRefund` and go-ethereum's `refundGas` give the same gas used for every gas limit, leftover
    and refund counter. -/
theorem C03_refund_equals_geth (gasLimit gasLeft counter : Nat) :
    gasUsedAfterRefund gasLimit gasLeft counter = gethGasUsedAfterRefund gasLimit gasLeft counter := by
  unfold gasUsedAfterRefund gethGasUsedAfterRefund
  simp only
  split <;> congr 1 <;> omega

/-- the refund never exceeds a fifth of the gas used (EIP-3529) -/
theorem C03_refund_cap (gasLimit gasLeft counter : Nat) :
    (gasLimit - gasLeft) - gasUsedAfterRefund gasLimit gasLeft counter ≤ (gasLimit - gasLeft) / refundQuotient := by
  unfold gasUsedAfterRefund refundQuotient
  simp only [Nat.min_def]
  split <;> omega

end Nibiru.GethSpec

/-! ### Nibiru's journal: every entry's Revert is the inverse of its mutation -/

namespace Nibiru.SDB
open Nibiru

theorem C03_journal_inverse_addRefund (s : S) (g : Nat) :
    (revertEntry (addRefund s g) (.refund s.refund)).refund = s.refund := rfl

theorem C03_journal_inverse_subRefund (s s' : S) (g : Nat) (h : subRefund s g = some s') :
    s'.journal = s.journal ++ [.refund s.refund] ∧ (revertEntry s' (.refund s.refund)).refund = s.refund := by
  unfold subRefund at h
  split at h
  · cases h
  · injection h with h
    subst h
    exact ⟨rfl, rfl⟩

theorem C03_journal_inverse_addLog (s : S) : (revertEntry (addLog s) .addLog).logs = s.logs := by
  simp [addLog, revertEntry, append]

theorem getObj_cached (s : S) (a : Nat) (o : Obj) (h : AList.find? s.objs a = some o) : getObj s a = (s, some o) := by
  simp [getObj, h]

theorem getOrNew_cached (s : S) (a : Nat) (o : Obj) (h : AList.find? s.objs a = some o) : getOrNew s a = (s, o) := by
  simp [getOrNew, getObj_cached s a o h]

theorem find_setObj_append (s : S) (a : Nat) (e : Entry) (o : Obj) :
    AList.find? (setObj (append s e) a o).objs a = some o := by
  simp [setObj, append, AList.find?_set_self]

/-- balance: after `SetBalance`-like mutations of a cached object, reverting the appended entry puts the old object back -/
theorem C03_journal_inverse_balance (s : S) (a : Nat) (o : Obj) (d : Int) (h : AList.find? s.objs a = some o) (hd : d ≠ 0) :
    let s' := addBalance s a d
    s'.journal = s.journal ++ [.balance a o.balance] ∧
    AList.find? (revertEntry s' (.balance a o.balance)).objs a = some o := by
  intro s'
  have hs : s' = setObj (append s (.balance a o.balance)) a { o with balance := o.balance + d } := by
    show addBalance s a d = _
    simp [addBalance, getOrNew_cached s a o h, hd]
  refine ⟨by rw [hs]; rfl, ?_⟩
  rw [hs]
  simp only [revertEntry]
  rw [getObj_cached _ a _ (find_setObj_append s a _ _)]
  simp [setObj, AList.find?_set_self]

theorem C03_journal_inverse_nonce (s : S) (a : Nat) (o : Obj) (n : Nat) (h : AList.find? s.objs a = some o) :
    let s' := setNonce s a n
    s'.journal = s.journal ++ [.nonce a o.nonce] ∧
    AList.find? (revertEntry s' (.nonce a o.nonce)).objs a = some o := by
  intro s'
  have hs : s' = setObj (append s (.nonce a o.nonce)) a { o with nonce := n } := by
    show setNonce s a n = _
    simp [setNonce, getOrNew_cached s a o h]
  refine ⟨by rw [hs]; rfl, ?_⟩
  rw [hs]
  simp only [revertEntry]
  rw [getObj_cached _ a _ (find_setObj_append s a _ _)]
  simp [setObj, AList.find?_set_self]

/-- code: the hash comes back (the `dirtyCode` flag stays set, which only makes the commit rewrite the same code) -/
theorem C03_journal_inverse_code (s : S) (a : Nat) (o : Obj) (c : Nat) (h : AList.find? s.objs a = some o) :
    let s' := setCode s a c
    s'.journal = s.journal ++ [.code a o.codeHash] ∧
    (AList.find? (revertEntry s' (.code a o.codeHash)).objs a).map (fun x => (x.codeHash, x.balance, x.nonce, x.dirty, x.suicided))
      = some (o.codeHash, o.balance, o.nonce, o.dirty, o.suicided) := by
  intro s'
  have hs : s' = setObj (append s (.code a o.codeHash)) a { o with codeHash := c, dirtyCode := true } := by
    show setCode s a c = _
    simp [setCode, getOrNew_cached s a o h]
  refine ⟨by rw [hs]; rfl, ?_⟩
  rw [hs]
  simp only [revertEntry]
  rw [getObj_cached _ a _ (find_setObj_append s a _ _)]
  simp [setObj, AList.find?_set_self]

/-- self-destruct: flag and balance come back -/
theorem C03_journal_inverse_suicide (s : S) (a : Nat) (o : Obj) (h : AList.find? s.objs a = some o) :
    let s' := (suicide s a).1
    s'.journal = s.journal ++ [.suicide a o.suicided o.balance] ∧
    AList.find? (revertEntry s' (.suicide a o.suicided o.balance)).objs a = some o := by
  intro s'
  have hs : s' = setObj (append s (.suicide a o.suicided o.balance)) a { o with suicided := true, balance := 0 } := by
    show (suicide s a).1 = _
    simp [suicide, getObj_cached s a o h]
  refine ⟨by rw [hs]; rfl, ?_⟩
  rw [hs]
  simp only [revertEntry]
  rw [getObj_cached _ a _ (find_setObj_append s a _ _)]
  simp [setObj, AList.find?_set_self]

/-- storage: after reverting a slot write, the slot reads what it read before -/
theorem C03_journal_inverse_storage (s : S) (a k v : Nat) (o : Obj) (h : AList.find? s.objs a = some o)
    (hv : objState s a o k ≠ v) :
    let s' := setState s a k v
    s'.journal = s.journal ++ [.storage a k (objState s a o k)] ∧
    (∃ o', AList.find? (revertEntry s' (.storage a k (objState s a o k))).objs a = some o' ∧
        AList.find? o'.dirty k = some (objState s a o k)) := by
  intro s'
  have hs : s' = setObj (append s (.storage a k (objState s a o k))) a
      { (touchState s a o k) with dirty := AList.set (touchState s a o k).dirty k v } := by
    show setState s a k v = _
    simp [setState, getOrNew_cached s a o h, hv]
  refine ⟨by rw [hs]; rfl, ?_⟩
  rw [hs]
  simp only [revertEntry]
  rw [getObj_cached _ a _ (find_setObj_append s a _ _)]
  refine ⟨{ (touchState s a o k) with
              dirty := AList.set (AList.set (touchState s a o k).dirty k v) k (objState s a o k) }, ?_, ?_⟩
  · simp [setObj, AList.find?_set_self]
  · simp [AList.find?_set_self]

/-- **C03 (Nibiru's journal, sequences).** Any sequence of write calls on cached accounts is undone by reverting the journal to its
    former length: the StateDB is observationally what it was (see `Eqv`: balances, nonces, code hashes, self-destruct flags,
    current and committed value of every storage slot, refund counter, number of logs, access list). -/
theorem C03_journal_undoes_any_write_sequence {A : List Nat} (s : S) (hc : Cached A s) (ws : List WOp)
    (hw : ∀ w ∈ ws, ∀ a, w.acct = some a → a ∈ A) : Eqv A (revertTo (applyAll s ws) s.journal.length) s :=
  revertTo_restores s hc ws hw

/-- **C03 (Nibiru's journal, Snapshot / RevertToSnapshot).** After `Snapshot`, any sequence of write calls on cached accounts, and
    `RevertToSnapshot(id)`: the id is valid and the StateDB is observationally what it was at the snapshot — the behaviour the
    reference semantics has by construction (`C03_spec_revert_restores`). -/
theorem C03_snapshot_revert_restores {A : List Nat} (s : S) (hc : Cached A s) (hrev : ∀ r ∈ s.revisions, r.1 < s.nextRev)
    (ws : List WOp) (hw : ∀ w ∈ ws, ∀ a, w.acct = some a → a ∈ A) :
    ∃ s3, revertToSnapshot (applyAll (snapshot s).1 ws) (snapshot s).2 = some s3 ∧ Eqv A s3 s :=
  snapshot_revert_restores s hc hrev ws hw

/-- non-vacuity: a state with two cached accounts and a history that writes balance, storage, code, self-destructs, logs -/
example : ∃ s3, revertToSnapshot (applyAll (snapshot ({ objs := [(1, { balance := 5, nonce := 1 }), (2, { codeHash := 7 })] } : S)).1
      [.addBalance 1 3, .setState 2 0 9, .setCode 2 8, .suicide 1, .addLog, .addRefund 4800, .subRefund 100, .addSlot 2 0])
      (snapshot ({ objs := [(1, { balance := 5, nonce := 1 }), (2, { codeHash := 7 })] } : S)).2 = some s3 ∧
    Eqv [1, 2] s3 { objs := [(1, { balance := 5, nonce := 1 }), (2, { codeHash := 7 })] } :=
  C03_snapshot_revert_restores (A := [1, 2]) _ (by intro a ha; simp at ha; rcases ha with rfl | rfl <;> simp [AList.find?])
    (by simp) _ (by
      intro w hwm a ha
      simp only [List.mem_cons, List.mem_singleton, List.not_mem_nil, or_false] at hwm
      rcases hwm with rfl | rfl | rfl | rfl | rfl | rfl | rfl | rfl <;> simp [WOp.acct] at ha <;> simp [← ha])

/-- **C03 (partial: straight-line write sequences) — Nibiru's StateDB answers as go-ethereum's reference semantics does.** From
    related states (e.g. the start of a transaction over the same persisted data, `sim_init`), after ANY sequence of interpreter
    writes — AddBalance, SetNonce, SetCode, SetState, Suicide, AddLog, AddRefund, SubRefund, access-list additions — on any accounts
    (cached, lazily loaded, or created by the write), the two remain related: every account read and every storage read of the
    journaled implementation returns what the copy-on-snapshot specification returns, and the counters agree. -/
theorem C03_write_sequences_simulate_reference_partial (s : S) (g : GethSpec.G) (h : Sim s g) (ws : List WOp) :
    Sim (applyAll s ws) (GethSpec.runOps g (ws.map toSpec)) :=
  sim_applyAll ws s g h

/-- … spelled out for the reads the interpreter makes after the sequence -/
theorem C03_reads_agree_after_any_write_sequence_partial (s : S) (g : GethSpec.G) (h : Sim s g) (ws : List WOp) (a k : Nat) :
    (getState (applyAll s ws) a k).2 =
      (match GethSpec.obj? (GethSpec.runOps g (ws.map toSpec)) a with
        | some x => GethSpec.stateOf (GethSpec.runOps g (ws.map toSpec)) a x k
        | none => 0) ∧
    (applyAll s ws).refund = (GethSpec.runOps g (ws.map toSpec)).tx.refund ∧
    (applyAll s ws).logs = (GethSpec.runOps g (ws.map toSpec)).tx.logs :=
  ⟨(sim_getState _ _ (sim_applyAll ws s g h) a k).1, (sim_applyAll ws s g h).refund, (sim_applyAll ws s g h).logs⟩

/-- non-vacuity: a store with one contract (nonce 1, code 7, 5 unibi, slot 0 = 9) and the same persisted data on the reference
    side are related, so the two theorems above apply to every write sequence from there -/
example : Sim { txStore := { accts := [(1, { nonce := 1, codeHash := 7, balance := 5 })], storage := [((1, 0), 9)] } }
    { base := { accts := [(1, (1, 7, 5000000000000))], storage := [((1, 0), 9)] } } := by
  apply sim_init
  · intro a ha k
    by_cases h1 : a = 1
    · subst h1; simp [Store.acct, AList.find?] at ha
    · have : ((1, 0) : Nat × Nat) ≠ (a, k) := fun e => h1 (congrArg Prod.fst e).symm
      simp [Store.slot, AList.find?, this]
  · intro a
    by_cases h1 : a = 1
    · subst h1; simp [Store.acct, AList.find?, weiPerUnibi]
    · have : (1 : Nat) ≠ a := fun e => h1 e.symm
      simp [Store.acct, AList.find?, this]
  · intro a k
    rfl

/-- **C03 (partial) — CreateAccount.** Where the store holds no storage under the address (no code, no nonce: the only case in which
    `evm.create` calls it), `CreateAccount` keeps the journaled model and the reference related: the balance is carried over, nonce
    and code start at zero, every slot reads zero on both sides. -/
theorem C03_createAccount_simulates_reference_partial (s : S) (g : GethSpec.G) (h : Sim s g) (a : Nat)
    (hs : ∀ k, s.txStore.slot a k = 0) : Sim (createAccount s a) (GethSpec.apply g (.createAccount a)).1 :=
  sim_createAccount s g h a hs

/-- **C03 (partial) — a reverted call frame.** From related states, with the accounts the frame writes cached (the interpreter
    reads an account before it writes it) and well-formed snapshot ids on both sides: `Snapshot`, ANY sequence of writes,
    `RevertToSnapshot` succeeds on Nibiru's journal and on the reference, and the two are related again afterwards — so the next
    frame starts from related states too. -/
theorem C03_reverted_frame_simulates_reference_partial {A : List Nat} (s : S) (g : GethSpec.G) (h : Sim s g) (hc : Cached A s)
    (hrev : ∀ r ∈ s.revisions, r.1 < s.nextRev) (hg : GethSpec.IdsBelow g) (ws : List WOp)
    (hw : ∀ w ∈ ws, ∀ a, w.acct = some a → a ∈ A) :
    ∃ s3, revertToSnapshot (applyAll (snapshot s).1 ws) (snapshot s).2 = some s3 ∧
      (GethSpec.apply (GethSpec.runOps (GethSpec.apply g .snapshot).1 (ws.map toSpec)) (.revert g.next)).2 = "ok" ∧
      Sim s3 (GethSpec.apply (GethSpec.runOps (GethSpec.apply g .snapshot).1 (ws.map toSpec)) (.revert g.next)).1 := by
  obtain ⟨s3, h3, hs⟩ := sim_reverted_frame s g h hc hrev ws hw
  have hp : ∀ o ∈ ws.map toSpec, o.plain = true := by
    intro o ho
    obtain ⟨w, _, e⟩ := List.mem_map.mp ho
    rw [← e]; exact toSpec_plain w
  obtain ⟨r1, r2, r3, _⟩ := GethSpec.C03_spec_revert_restores g hg (ws.map toSpec) hp
  exact ⟨s3, h3, r1, sim_congr_ref s3 g _ r3 r2 hs⟩

/-! ### T1 (regenerated from x/evm/statedb/journal.go, statedb.go, state_object.go on every run) -/

/-- the Go type each constructor of the model's `Entry` stands for -/
def Entry.goType : Entry → String
  | .createObject _ => "createObjectChange"
  | .resetObject _ _ => "resetObjectChange"
  | .suicide _ _ _ => "suicideChange"
  | .balance _ _ => "balanceChange"
  | .nonce _ _ => "nonceChange"
  | .code _ _ => "codeChange"
  | .storage _ _ _ => "storageChange"
  | .refund _ => "refundChange"
  | .addLog => "addLogChange"
  | .alAddr _ => "accessListAddAccountChange"
  | .alSlot _ _ => "accessListAddSlotChange"
  | .precompile _ => "PrecompileCalled"

/-- one sample per constructor, in the order of the declarations in journal.go -/
def entrySamples : List Entry :=
  [.createObject 0, .resetObject 0 {}, .suicide 0 false 0, .balance 0 0, .nonce 0 0, .code 0 0, .storage 0 0 0, .refund 0, .addLog,
   .alAddr 0, .alSlot 0 0, .precompile {}]

/-- journal.go declares exactly the JournalChange types the model has constructors for, in this order, and each type's `Dirtied()`
    returns its account exactly where the model's `Entry.dirtied` does (COMPUTED from the model, not restated) -/
theorem fact_C03_journal_entry_types_match_model :
    Generated.journalEntryTypes.map (fun r => (r.1, r.2.1)) =
      entrySamples.map (fun e => (e.goType, if e.dirtied.isSome then "return:ch.account" else "return:nil")) := rfl

/-- the skeleton of every `Revert` (calls, assigned fields, conditions, in source order) is the one `revertEntry` was written from:
    createObject deletes the state object; resetObject puts the previous object back; suicide / balance / nonce / code / storage go
    through `getStateObject` and restore the journaled previous value (suicide: only when the object exists); refund and logs
    restore the counter; the access-list entries delete what was added; PrecompileCalled swaps the cache context for the snapshot -/
theorem fact_C03_journal_revert_skeletons :
    Generated.journalEntryTypes.map (fun r => r.2.2) =
      ["call:delete",
       "call:s.setStateObject",
       "assign:obj ; call:s.getStateObject ; if:obj != nil ; assign:obj.Suicided ; call:obj.setBalance",
       "call:s.getStateObject(*ch.account).setBalance ; call:s.getStateObject",
       "call:s.getStateObject(*ch.account).setNonce ; call:s.getStateObject",
       "call:s.getStateObject(*ch.account).setCode ; call:s.getStateObject ; call:common.BytesToHash",
       "call:s.getStateObject(*ch.account).setState ; call:s.getStateObject",
       "assign:s.refund",
       "assign:s.logs ; call:len",
       "call:s.accessList.DeleteAddress",
       "call:s.accessList.DeleteSlot",
       "assign:s.cacheCtx ; call:s.cacheCtx.WithMultiStore ; assign:s.writeToCommitCtxFromCacheCtx ; call:s.evmTxCtx.EventManager().EmitEvents ; call:s.evmTxCtx.EventManager ; call:ch.MultiStore.Write"] := rfl

/-- which mutation appends which entry, and that the entry is appended BEFORE the field is assigned (the journaled value is the
    previous one): the write calls of the model were written from exactly these sites -/
theorem fact_C03_journal_append_sites :
    Generated.journalAppendSites =
      ["StateDB.AddAddressToAccessList = append:accessListAddAccountChange",
       "StateDB.AddLog = append:addLogChange ; assign:log.TxHash ; assign:log.BlockHash ; assign:log.TxIndex ; assign:log.Index ; assign:s.logs",
       "StateDB.AddRefund = append:refundChange ; assign:s.refund",
       "StateDB.AddSlotToAccessList = append:accessListAddAccountChange ; append:accessListAddSlotChange",
       "StateDB.SavePrecompileCalledJournalChange = append:journalChange",
       "StateDB.SubRefund = append:refundChange ; assign:s.refund",
       "StateDB.Suicide = append:suicideChange ; assign:stateObject.Suicided ; assign:stateObject.account.BalanceWei",
       "StateDB.createObject = append:createObjectChange ; append:resetObjectChange",
       "stateObject.SetBalance = append:balanceChange",
       "stateObject.SetCode = append:codeChange",
       "stateObject.SetNonce = append:nonceChange",
       "stateObject.SetState = append:storageChange"] := rfl

end Nibiru.SDB
