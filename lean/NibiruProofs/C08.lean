/-
  C08 — Nibiru precompiles fail closed on any input and respect call context.

  Theorems over NibiruModel.Precompile (the admission path of a precompile call: RequiredGas, decomposeInput, the per-method
  guards, the places where a Go panic can start).  `Generated.*` are the facts re-read from x/evm/precompile on every run.
-/
import NibiruModel.Precompile
import Generated.Facts

namespace Nibiru.Precompile
open Nibiru

/-- the configuration of the source as it is now -/
def genCfg : Cfg :=
  cfgOfFacts Generated.precompileRequiredGasLenCheck Generated.precompileIsMutation Generated.precompileRunCases
    Generated.precompileRunDefersOOG Generated.precompileRawStringUses Generated.getErc20AddressGuards

/-! ### fact obligations (T1): the regenerated tables are what the theorems need -/

/-- the isMutation literal is the expected table -/
theorem fact_C08_isMutation_table : Generated.precompileIsMutation = expectedIsMutation := rfl

/-- every state-changing method has a `case`, and its handler starts with the read-only refusal -/
theorem fact_C08_state_changing_guarded :
    ∀ m ∈ stateChanging, ∃ mi ∈ genCfg.methods, mi.name = m ∧ mi.guard = "assertNotReadonlyTx" := by decide +kernel

/-- conversely every handler guarded otherwise is not a state-changing method -/
theorem fact_C08_unguarded_are_queries :
    ∀ mi ∈ genCfg.methods, mi.guard ≠ "assertNotReadonlyTx" → mi.name ∉ stateChanging := by decide +kernel

/-- every FunToken / Wasm query handler starts with the "no funds" assertion -/
theorem fact_C08_queries_refuse_value :
    ∀ mi ∈ genCfg.methods, mi.pc ≠ "oracle" → mi.name ∉ stateChanging → mi.guard = "assertContractQuery" := by decide +kernel

/-- method names are unique per precompile (so `method?` finds *the* handler) -/
theorem fact_C08_methods_unique :
    (genCfg.methods.map (fun m => (m.pc, m.name))).Nodup := by decide +kernel

/-- the source guards every place a panic could start: length check in requiredGas, denom validation before sdk.NewCoin and
    before the string-key index lookup, an out-of-gas handler in every Run -/
theorem fact_C08_cfg_good : genCfg.Good := by
  unfold Cfg.Good; decide +kernel

/-- the argument of `getErc20Address` reaches the string-key index only through these checks, in this order -/
theorem fact_C08_getErc20Address_guards :
    Generated.getErc20AddressGuards =
      ["e := assertNumArgs(args, 1); e != nil", "!ok", "err = sdk.ValidateDenom(bankDenom); err != nil",
       "err = tfDenom.Validate(); err != nil", "strings.ContainsRune(bankDenom, 0)"] := rfl

theorem fact_C08_all_runs_defer_oog : ∀ p ∈ Generated.precompileRunDefersOOG, p.2 = true := by decide +kernel

/-! ### no input panics -/

theorem requiredGas_ne_none (c : Cfg) (x : Call) (h : c.requiredGasLenCheck = true) (hcap : x.len ≤ x.cap) :
    requiredGas c x ≠ none := by
  simp only [requiredGas, h, Bool.true_and, decide_eq_true_eq]
  by_cases h4 : x.len < 4
  · rw [if_pos h4]; nofun
  · rw [if_neg h4, if_neg (by omega : ¬ x.cap < 4)]
    cases x.selCap with
    | none => nofun
    | some m => dsimp only; rw [if_neg h4]; cases c.mutation m <;> nofun

/-- every place of `body` where a panic can start sits behind a flag that `Good` sets: rewriting the flags leaves `.run` at
    every leaf -/
theorem body_eq_run (c : Cfg) (x : Call) (m : String) (g : Nat) (hg : c.Good) : body c x m g = .run := by
  obtain ⟨_, h2, h3, h4, h5⟩ := hg
  simp only [body, h2, h3, h4, h5, Bool.not_true, Bool.and_false, Bool.false_eq_true, if_false, ite_self]

/-- `stage` read as the chain of exits it is, in the order of the source: one constructor per exit, with the conditions under
    which a call leaves there. A statement about the stage a call can or cannot end in is a case analysis on `stage_exit` (the
    exits with another stage drop out by themselves). -/
inductive Exit (c : Cfg) (x : Call) : Stage → Prop
  | panic : requiredGas c x = none → Exit c x .panic
  | oog {g} : requiredGas c x = some g → x.gas < g → Exit c x .oog
  | short : x.len < 4 → Exit c x .short
  | noMethod : x.selLen = none → Exit c x .noMethod
  | unpack : x.unpackOk = false → Exit c x .unpack
  | noCase {m} : x.selLen = some m → c.method? x.pc m = none → Exit c x .run
  | readonly {m mi} : x.selLen = some m → c.method? x.pc m = some mi → mi.guard = "assertNotReadonlyTx" ∧ x.readOnly = true →
      Exit c x .readonly
  | value {m mi} : x.selLen = some m → c.method? x.pc m = some mi → mi.guard = "assertContractQuery" ∧ x.valueNonZero = true →
      Exit c x .value
  | body {g m mi s} : requiredGas c x = some g → x.selLen = some m → c.method? x.pc m = some mi →
      ¬ (mi.guard = "assertNotReadonlyTx" ∧ x.readOnly = true) → ¬ (mi.guard = "assertContractQuery" ∧ x.valueNonZero = true) →
      s = Precompile.body c x m (x.gas - g) → Exit c x s

theorem stage_exit (c : Cfg) (x : Call) : Exit c x (stage c x) := by
  unfold stage
  cases hr : requiredGas c x with
  | none => exact .panic hr
  | some g =>
    dsimp only
    by_cases hgas : x.gas < g
    · rw [if_pos hgas]; exact .oog hr hgas
    by_cases hlen : x.len < 4
    · rw [if_neg hgas, if_pos hlen]; exact .short hlen
    rw [if_neg hgas, if_neg hlen]
    cases hsel : x.selLen with
    | none => exact .noMethod hsel
    | some m =>
      dsimp only
      cases hu : x.unpackOk with
      | false => exact .unpack hu
      | true =>
        rw [if_neg nofun]
        cases hmi : c.method? x.pc m with
        | none => exact .noCase hsel hmi
        | some mi =>
          dsimp only
          by_cases h1 : mi.guard = "assertNotReadonlyTx" ∧ x.readOnly = true
          · rw [if_pos h1]; exact .readonly hsel hmi h1
          by_cases h2 : mi.guard = "assertContractQuery" ∧ x.valueNonZero = true
          · rw [if_neg h1, if_pos h2]; exact .value hsel hmi h2
          rw [if_neg h1, if_neg h2]; exact .body hr hsel hmi h1 h2 rfl

/-- **C08 (no crash).** With the source's guards in place, no calldata (any length, any capacity of the memory window, any
    selector, decodable or not), no call context, value or gas amount drives a precompile call into a panic. -/
theorem C08_never_panics (c : Cfg) (hg : c.Good) (x : Call) (hcap : x.len ≤ x.cap) : stage c x ≠ .panic := by
  intro h
  have e := stage_exit c x
  rw [h] at e
  cases e with
  | panic hr => exact requiredGas_ne_none c x hg.1 hcap hr
  | body _ _ _ _ _ hb => rw [body_eq_run c x _ _ hg] at hb; cases hb

/-- the same for the source as it is now -/
theorem C08_never_panics_current (x : Call) (hcap : x.len ≤ x.cap) : stage genCfg x ≠ .panic :=
  C08_never_panics genCfg fact_C08_cfg_good x hcap

/-! ### counterexamples for the source as it was (each replayed on the real code; repaired by `fix:` commits) -/

def cfgBefore : Cfg := { genCfg with requiredGasLenCheck := false, bankMsgSendValidatesDenom := false,
                                     sendToEvmValidatesDenom := false, getErc20AddressRejectsNul := false, defersOOG := [("funtoken", true), ("oracle", false), ("wasm", true)] }

/-- `address(0x800).call("")`: empty calldata reaches `input[:4]` -/
theorem C08_counterexample_empty_calldata_before_fix :
    stage cfgBefore { pc := "funtoken", len := 0, cap := 0, selCap := none, selLen := none, unpackOk := false, readOnly := false,
                      valueNonZero := false, gas := 100000 } = .panic := by decide +kernel

/-- a 2-byte window into memory whose following bytes spell a real selector reaches `input[4:]` -/
theorem C08_counterexample_short_window_before_fix :
    stage cfgBefore { pc := "funtoken", len := 2, cap := 32, selCap := some "balance", selLen := none, unpackOk := false,
                      readOnly := true, valueNonZero := false, gas := 100000 } = .panic := by decide +kernel

/-- `bankMsgSend(to, "1abc", 5)`: `sdk.NewCoin` panics on the invalid denom -/
theorem C08_counterexample_bankMsgSend_denom_before_fix :
    stage cfgBefore { pc := "funtoken", len := 260, cap := 260, selCap := some "bankMsgSend", selLen := some "bankMsgSend",
                      unpackOk := true, readOnly := false, valueNonZero := false, gas := 5000000, toOk := true, denom := "1abc" } = .panic := by
  decide +kernel

/-- `sendToEvm("ab\0cd", …)`: the string-key encoder of the BankDenom index panics on the NUL byte -/
theorem C08_counterexample_sendToEvm_nul_before_fix :
    stage cfgBefore { pc := "funtoken", len := 228, cap := 228, selCap := some "sendToEvm", selLen := some "sendToEvm",
                      unpackOk := true, readOnly := false, valueNonZero := false, gas := 5000000,
                      denom := String.ofList ['a', 'b', Char.ofNat 0, 'c'] } = .panic := by
  decide +kernel

/-- `getErc20Address("tf/a/b\0c")`: refused by `sdk.ValidateDenom`, let through by the tokenfactory format check (which only counts
    the "/"-separated sections), and the string-key encoder of the BankDenom index panics on the NUL byte — a VIEW method, reachable
    by STATICCALL from any contract -/
theorem C08_counterexample_getErc20Address_tf_nul_before_fix :
    stage cfgBefore { pc := "funtoken", len := 100, cap := 100, selCap := some "getErc20Address", selLen := some "getErc20Address",
                      unpackOk := true, readOnly := true, valueNonZero := false, gas := 5000000,
                      denom := String.ofList ['t', 'f', '/', 'a', '/', 'b', Char.ofNat 0, 'c'] } = .panic := by
  decide +kernel

/-- an oracle query given less gas than the first store read costs: the out-of-gas panic had no handler -/
theorem C08_counterexample_oracle_low_gas_before_fix :
    stage cfgBefore { pc := "oracle", len := 100, cap := 100, selCap := some "queryExchangeRate", selLen := some "queryExchangeRate",
                      unpackOk := true, readOnly := true, valueNonZero := false, gas := 1500, pairOk := true } = .panic := by
  decide +kernel

/-! ### read-only context -/

/-- a selector resolves to *the* handler of that name when names are unique per precompile -/
theorem method?_of_mem_unique (c : Cfg) (mi : MethodInfo) (hm : mi ∈ c.methods)
    (hu : (c.methods.map (fun m => (m.pc, m.name))).Nodup) : c.method? mi.pc mi.name = some mi := by
  unfold Cfg.method?
  generalize c.methods = l at hm hu
  induction l with
  | nil => cases hm
  | cons a t ih =>
    simp only [List.map_cons, List.nodup_cons] at hu
    rw [List.find?_cons]
    by_cases ha : a.pc = mi.pc ∧ a.name = mi.name
    · simp only [ha, and_self, decide_true]
      rcases List.mem_cons.mp hm with h | h
      · rw [h]
      · exact absurd (List.mem_map.mpr ⟨mi, h, by rw [ha.1, ha.2]⟩) hu.1
    · simp only [ha, decide_false]
      rcases List.mem_cons.mp hm with h | h
      · exact absurd ⟨by rw [h], by rw [h]⟩ ha
      · exact ih h hu.2

/-- a handler whose first guard refuses the call is not entered -/
theorem stage_ne_run_of_guard (c : Cfg) (hu : (c.methods.map (fun m => (m.pc, m.name))).Nodup) (x : Call)
    (mi : MethodInfo) (hm : mi ∈ c.methods) (hpc : mi.pc = x.pc) (hsel : x.selLen = some mi.name)
    (hgd : mi.guard = "assertNotReadonlyTx" ∧ x.readOnly = true ∨ mi.guard = "assertContractQuery" ∧ x.valueNonZero = true) :
    stage c x ≠ .run := by
  have hmi := method?_of_mem_unique c mi hm hu
  rw [hpc] at hmi
  intro h
  have e := stage_exit c x
  rw [h] at e
  cases e with
  | noCase hs hn => rw [hsel] at hs; cases hs; rw [hmi] at hn; cases hn
  | body _ hs hm h1 h2 _ => rw [hsel] at hs; cases hs; rw [hmi] at hm; cases hm; exact hgd.elim h1 h2

/-- **C08 (static context).** A call whose selector names a handler guarded by `assertNotReadonlyTx`, made with the read-only
    flag, never reaches the handler's body: it ends in one of the refusing stages. -/
theorem C08_mutation_refused_when_readonly (c : Cfg) (hg : c.Good)
    (hu : (c.methods.map (fun m => (m.pc, m.name))).Nodup) (x : Call) (hcap : x.len ≤ x.cap)
    (mi : MethodInfo) (hm : mi ∈ c.methods) (hpc : mi.pc = x.pc) (hsel : x.selLen = some mi.name)
    (hgd : mi.guard = "assertNotReadonlyTx") (hro : x.readOnly = true) :
    stage c x ≠ .run ∧ stage c x ≠ .panic :=
  ⟨stage_ne_run_of_guard c hu x mi hm hpc hsel (.inl ⟨hgd, hro⟩), C08_never_panics c hg x hcap⟩

/-- for the current source: every state-changing method of every precompile is refused under the read-only flag, which the fork
    passes for STATICCALL, DELEGATECALL and CALLCODE -/
theorem C08_state_changing_refused_when_readonly_current (x : Call) (hcap : x.len ≤ x.cap)
    (m : String) (hm : m ∈ stateChanging) (hsel : x.selLen = some m)
    (mi : MethodInfo) (hmi : mi ∈ genCfg.methods) (hname : mi.name = m) (hpc : mi.pc = x.pc)
    (k : CallKind) (hk : k ≠ .call) (hro : x.readOnly = readOnlyOf k) :
    stage genCfg x ≠ .run ∧ stage genCfg x ≠ .panic := by
  have hguard : mi.guard = "assertNotReadonlyTx" :=
    Decidable.byContradiction fun hne => fact_C08_unguarded_are_queries mi hmi hne (hname ▸ hm)
  have hro' : x.readOnly = true := by
    rw [hro]; cases k <;> first | rfl | exact absurd rfl hk
  exact C08_mutation_refused_when_readonly genCfg fact_C08_cfg_good fact_C08_methods_unique x hcap mi hmi hpc
    (hname ▸ hsel) hguard hro'

/-- **C08 (queries take no funds).** A FunToken / Wasm query handler refuses a call that carries value. -/
theorem C08_query_refuses_value (c : Cfg) (hu : (c.methods.map (fun m => (m.pc, m.name))).Nodup) (x : Call)
    (mi : MethodInfo) (hm : mi ∈ c.methods) (hpc : mi.pc = x.pc) (hsel : x.selLen = some mi.name)
    (hgd : mi.guard = "assertContractQuery") (hv : x.valueNonZero = true) :
    stage c x ≠ .run :=
  stage_ne_run_of_guard c hu x mi hm hpc hsel (.inr ⟨hgd, hv⟩)

/-- the known gap, stated in the model: the fork passes `readOnly = false` for a plain CALL even when an enclosing frame is
    static, so the guard does not see it (replayed on the real code: known finding C08-nested-static) -/
theorem C08_counterexample_nested_static :
    readOnlyOf .call = false ∧
    stage genCfg { pc := "funtoken", len := 260, cap := 260, selCap := some "bankMsgSend", selLen := some "bankMsgSend",
                   unpackOk := true, readOnly := readOnlyOf .call, valueNonZero := false, gas := 5000000, toOk := true,
                   denom := "unibi" } = .run := by
  decide +kernel

/-! ### gas -/

/-- **C08 (gas).** Whatever the local meter consumed, the gas handed back never exceeds the gas supplied: the call cannot cost
    more than was forwarded to it. -/
theorem C08_gas_le_forwarded (c : Cfg) (x : Call) (consumed : Nat) : gasLeft c x consumed ≤ x.gas := by
  unfold gasLeft
  cases requiredGas c x with
  | none => simp
  | some g =>
    simp only
    split
    · exact Nat.le_refl _
    · split <;> omega

/-- a call that fails before Run costs nothing beyond RequiredGas, and an out-of-gas at RequiredGas leaves the supplied gas
    to the caller's error path (`evm.Call` then zeroes it: a failed precompile call burns what was forwarded, no more) -/
theorem C08_oog_required_keeps_gas (c : Cfg) (x : Call) (g : Nat) (h : requiredGas c x = some g) (hlt : x.gas < g) :
    stage c x = .oog ∧ gasLeft c x 0 = x.gas := by
  unfold stage gasLeft
  simp [h, hlt]

/-! ### non-vacuity: the hypotheses are met by concrete calls -/

example : (stage genCfg { pc := "funtoken", len := 260, cap := 260, selCap := some "bankMsgSend", selLen := some "bankMsgSend",
                          unpackOk := true, readOnly := true, valueNonZero := false, gas := 5000000 }) = .readonly := by decide +kernel
example : (stage genCfg { pc := "wasm", len := 100, cap := 100, selCap := some "query", selLen := some "query",
                          unpackOk := true, readOnly := true, valueNonZero := true, gas := 5000000 }) = .value := by decide +kernel
example : (stage genCfg { pc := "funtoken", len := 0, cap := 0, selCap := none, selLen := none, unpackOk := false, readOnly := false,
                          valueNonZero := false, gas := 100000 }) = .short := by decide +kernel
example : (stage genCfg { pc := "funtoken", len := 2, cap := 32, selCap := some "balance", selLen := none, unpackOk := false,
                          readOnly := true, valueNonZero := false, gas := 100000 }) = .short := by decide +kernel

end Nibiru.Precompile
