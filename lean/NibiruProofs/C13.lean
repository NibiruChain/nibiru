/-
  C13 — Inflation mints exactly the scheduled amount and distributes all of it.
  Theorems about NibiruModel.Inflation (x/inflation/keeper/hooks.go, inflation.go, types/inflation_calculation.go).
-/
import NibiruModel.Inflation
import NibiruProofs.DecLemmas
namespace Nibiru.Inflation
open Nibiru.Dec

theorem proportion_eq (m p : Int) (hm : 0 ≤ m) (hp : 0 ≤ p) : proportion m p = (m * p) / prec := by
  unfold proportion truncateInt
  rw [mul_ofInt, Int.tdiv_eq_ediv_of_nonneg (Int.mul_nonneg hm hp)]

/-! ### distribution: everything minted is distributed, parts are non-negative and sum to the minted amount -/

/-- two truncated shares of parts of `c * d` do not exceed `c` -/
theorem ediv_add_ediv_le {a b c d : Int} (hd : 0 < d) (h : a + b ≤ c * d) : a / d + b / d ≤ c := by
  refine Int.le_of_mul_le_mul_right ?_ hd
  rw [Int.add_mul]
  exact Int.le_trans (Int.add_le_add (Int.ediv_mul_le a (Int.ne_of_gt hd)) (Int.ediv_mul_le b (Int.ne_of_gt hd))) h

/-- Positive-mint branch of the hook, stated on the allocation itself. -/
theorem C13_distribution_sums (m ps pc pr : Int) (hm : 0 < m) (hps : 0 ≤ ps) (hpc : 0 ≤ pc) (hpr : 0 ≤ pr)
    (hsum : ps + pr + pc = prec) :
    let st := proportion m ps
    let cm := proportion m pc
    let strat := m - st - cm
    0 ≤ st ∧ 0 ≤ cm ∧ 0 ≤ strat ∧ st + cm + strat = m ∧
    st = (m * ps) / prec ∧ cm = (m * pc) / prec := by
  intro st cm strat
  have hm0 := Int.le_of_lt hm
  have hd : (0 : Int) < prec := by decide
  have hst : st = (m * ps) / prec := proportion_eq m ps hm0 hps
  have hcm : cm = (m * pc) / prec := proportion_eq m pc hm0 hpc
  have hle : st + cm ≤ m := by
    rw [hst, hcm]
    refine ediv_add_ediv_le hd ?_
    rw [← hsum, Int.mul_add, Int.mul_add]
    exact Int.add_le_add_right (Int.le_add_of_nonneg_right (Int.mul_nonneg hm0 hpr)) _
  exact ⟨hst ▸ Int.ediv_nonneg (Int.mul_nonneg hm0 hps) (Int.le_of_lt hd),
    hcm ▸ Int.ediv_nonneg (Int.mul_nonneg hm0 hpc) (Int.le_of_lt hd),
    show 0 ≤ m - st - cm from Int.sub_sub m st cm ▸ Int.sub_nonneg_of_le hle,
    show st + cm + (m - st - cm) = m by rw [Int.sub_sub, Int.add_comm, Int.sub_add_cancel], hst, hcm⟩

theorem allocate_sums (p : Params) (m : Int) (hv : validParams p = true) :
    let a := allocate p 0 m
    a.2.staking + a.2.community + a.2.strategic = a.2.minted ∧ a.1 = 0 ∧
    0 ≤ a.2.staking ∧ 0 ≤ a.2.community ∧ 0 ≤ a.2.strategic ∧ 0 ≤ a.2.minted := by
  simp only [validParams, Bool.and_eq_true, decide_eq_true_eq] at hv
  obtain ⟨⟨⟨⟨⟨⟨_, _⟩, _⟩, hps⟩, hpc⟩, hpr⟩, hsum⟩ := hv
  unfold allocate
  by_cases hm : m > 0
  · obtain ⟨h1, h2, h3, h4, _, _⟩ := C13_distribution_sums m _ _ _ hm hps hpc hpr hsum
    simp only [hm, if_true, Int.zero_add]
    exact ⟨h4, trivial, h1, h2, h3, Int.le_of_lt hm⟩
  · simp [hm]

/-- On the hook: whenever something is minted, the three parts sum to it and the module account ends empty
    (it started empty: nothing else ever credits the inflation module account). -/
theorem C13_hook_distributes_all (s : State) (n : Nat) (hbal : s.moduleBal = 0)
    (hv : validParams s.params = true) :
    let r := afterEpochEnd s n
    r.2.staking + r.2.community + r.2.strategic = r.2.minted ∧ r.1.moduleBal = 0 ∧
    0 ≤ r.2.staking ∧ 0 ≤ r.2.community ∧ 0 ≤ r.2.strategic ∧ 0 ≤ r.2.minted := by
  unfold afterEpochEnd
  split
  · split <;> simp [hbal]
  · split
    · simp [hbal]
    · rw [hbal]; exact allocate_sums s.params _ hv

/-! ### the schedule -/

/-- the amount the hook mints when the stored period is `per` (0 when the provision is not positive) -/
def mintOf (p : Params) (per : Nat) : Int :=
  (allocate p 0 (truncateInt (provision { p with enabled := true } per))).2.minted

/-- the polynomial keeps the provision positive below MaxPeriod (hypothesis of the property) -/
def Positive (p : Params) : Prop := ∀ per, per < p.maxPeriod → 0 < provision { p with enabled := true } per

/-- Coherence of the counters with the number `n` of the last finished day-epoch; `n - skipped` is the number of enabled
    epochs processed so far. -/
structure Inv (s : State) (n : Nat) : Prop where
  epp_pos : 0 < s.params.epp
  en_started : s.params.enabled = true → s.params.started = true
  fresh : s.params.started = false → s.period = 0 ∧ s.skipped = n
  le : s.skipped ≤ n
  coh : s.period < s.params.maxPeriod → s.params.epp * s.period ≤ n - s.skipped ∧ n - s.skipped < s.params.epp * s.period + s.params.epp
  done : s.params.maxPeriod ≤ s.period → s.params.epp * s.params.maxPeriod ≤ n - s.skipped

theorem provision_enabled (p : Params) (h : p.enabled = true) (per : Nat) :
    provision p per = provision { p with enabled := true } per := by
  cases p; simp_all

theorem provision_ge_max (p : Params) (per : Nat) (h : p.maxPeriod ≤ per) : provision p per = 0 := by
  unfold provision; simp [h]

theorem allocate_minted_indep (p q : Params) (b c m : Int) : (allocate p b m).2.minted = (allocate q c m).2.minted := by
  unfold allocate; split <;> rfl

/-! the arithmetic of the schedule, on numbers: `E` epochs per period, `M` periods, stored period `P`, `G` enabled epochs so far -/

/-- what `Inv` says about the stored period: inside the schedule it is `⌊G / E⌋`; at or beyond the end of the schedule at
    least `E * M` enabled epochs have passed -/
def Sched (E M P G : Nat) : Prop := (P < M → E * P ≤ G ∧ G < E * P + E) ∧ (M ≤ P → E * M ≤ G)

theorem Inv.sched {s : State} {n : Nat} (inv : Inv s n) :
    Sched s.params.epp s.params.maxPeriod s.period (n - s.skipped) := ⟨inv.coh, inv.done⟩

/-- once inflation has started, coherence is `skipped ≤ n` and the schedule -/
theorem Inv.of_sched {s : State} {n : Nat} (hE : 0 < s.params.epp) (hst : s.params.started = true) (hle : s.skipped ≤ n)
    (hs : Sched s.params.epp s.params.maxPeriod s.period (n - s.skipped)) : Inv s n :=
  ⟨hE, fun _ => hst, fun h => (nomatch hst.symm.trans h), hle, hs.1, hs.2⟩

theorem Sched.zero {E M : Nat} (hE : 0 < E) : Sched E M 0 0 :=
  ⟨fun _ => ⟨Nat.le_refl 0, by omega⟩, fun h => by rw [Nat.le_zero.mp h]; exact Nat.le_refl 0⟩

theorem Sched.period_eq {E M P G : Nat} (h : Sched E M P G) (hP : P < M) : P = G / E :=
  (Nat.div_eq_of_lt_le (Nat.mul_comm E P ▸ (h.1 hP).1) (by rw [Nat.add_mul, Nat.one_mul, Nat.mul_comm]; exact (h.1 hP).2)).symm

theorem Sched.max_le {E M P G : Nat} (hE : 0 < E) (h : Sched E M P G) (hM : M ≤ P) : M ≤ G / E :=
  (Nat.le_div_iff_mul_le hE).mpr (Nat.mul_comm E M ▸ h.2 hM)

/-- an enabled epoch after the end of the schedule -/
theorem Sched.idle {E M P G : Nat} (h : Sched E M P G) (hM : M ≤ P) : Sched E M P (G + 1) :=
  ⟨fun hP => absurd hM (Nat.not_le.mpr hP), fun _ => Nat.le_succ_of_le (h.2 hM)⟩

/-- an enabled epoch inside the schedule: the period moves on exactly when the epoch was the last of its period -/
theorem Sched.step {E M P G : Nat} {b : Bool} (hE : 0 < E) (h : Sched E M P G) (hP : P < M)
    (hb : b = true ↔ E * P + E ≤ G + 1) : Sched E M (if b then P + 1 else P) (G + 1) := by
  obtain ⟨c1, c2⟩ := h.1 hP
  cases b
  · show Sched E M P (G + 1)
    have := mt hb.mpr nofun
    exact ⟨fun _ => ⟨Nat.le_succ_of_le c1, Nat.lt_of_not_le this⟩, fun hM => absurd hP (Nat.not_lt.mpr hM)⟩
  · show Sched E M (P + 1) (G + 1)
    have := hb.mp rfl
    rw [Sched, Nat.mul_add, Nat.mul_one]
    exact ⟨fun _ => ⟨this, Nat.add_lt_add_of_lt_of_le c2 hE⟩, fun hM => Nat.le_antisymm hM hP ▸ this⟩

theorem rollover_iff (s : State) (n : Nat) (hle : s.skipped ≤ n) :
    rollover s (n + 1) = true ↔ s.params.epp * s.period + s.params.epp ≤ n - s.skipped + 1 := by
  unfold rollover
  simp only [decide_eq_true_eq]
  generalize s.params.epp * s.period = x
  omega

/-- disabled epochs: nothing is minted and the schedule does not advance -/
theorem C13_disabled_step (s : State) (n : Nat) (inv : Inv s n) (hen : s.params.enabled = false) :
    let r := afterEpochEnd s (n + 1)
    Inv r.1 (n + 1) ∧ r.1.params = s.params ∧ r.2.minted = 0 ∧ (n + 1) - r.1.skipped = n - s.skipped ∧
    r.1.period = s.period := by
  cases hst : s.params.started
  · -- never enabled so far: the hook stores the epoch number itself as the number of skipped epochs
    obtain ⟨hp0, hsk⟩ := inv.fresh hst
    have hs : Sched s.params.epp s.params.maxPeriod s.period (n + 1 - (n + 1)) := by
      rw [hp0, Nat.sub_self]; exact Sched.zero inv.epp_pos
    rw [afterEpochEnd, if_pos hen, if_pos hst]
    exact ⟨⟨inv.epp_pos, fun h => (nomatch hen.symm.trans h), fun _ => ⟨hp0, rfl⟩, Nat.le_refl _, hs.1, hs.2⟩, rfl, rfl,
      by dsimp only; rw [hsk, Nat.sub_self, Nat.sub_self], rfl⟩
  · have hG : n + 1 - (s.skipped + 1) = n - s.skipped := Nat.add_sub_add_right n 1 s.skipped
    rw [afterEpochEnd, if_pos hen, if_neg (ne_false_of_eq_true hst)]
    exact ⟨.of_sched inv.epp_pos hst (Nat.succ_le_succ inv.le) (hG.symm ▸ inv.sched), rfl, rfl, hG, rfl⟩

/-- enabled epochs: exactly the scheduled amount for period ⌊(enabled epochs so far)/E⌋ is minted, and the counters stay coherent -/
theorem C13_enabled_step (s : State) (n : Nat) (inv : Inv s n) (hpos : Positive s.params) (hen : s.params.enabled = true) :
    let r := afterEpochEnd s (n + 1)
    Inv r.1 (n + 1) ∧ r.1.params = s.params ∧ r.1.skipped = s.skipped ∧
    r.2.minted = mintOf s.params ((n - s.skipped) / s.params.epp) := by
  have hst := inv.en_started hen
  have hG : n + 1 - s.skipped = n - s.skipped + 1 := Nat.sub_add_comm inv.le
  by_cases hmax : s.period < s.params.maxPeriod
  · -- inside the schedule: the provision is positive, the hook mints, and the period rolls over when its last epoch ends
    have hprov : 0 < provision s.params s.period := provision_enabled _ hen _ ▸ hpos _ hmax
    rw [afterEpochEnd, if_neg (ne_false_of_eq_true hen), if_neg (Int.not_le.mpr hprov)]
    refine ⟨.of_sched inv.epp_pos hst (Nat.le_succ_of_le inv.le)
      (hG.symm ▸ inv.sched.step inv.epp_pos hmax (rollover_iff s n inv.le)), rfl, rfl, ?_⟩
    rw [mintOf, ← inv.sched.period_eq hmax, ← provision_enabled _ hen]
    exact allocate_minted_indep _ _ _ _ _
  · -- schedule finished: the provision is zero, nothing happens, and nothing is scheduled
    have hmax' : s.params.maxPeriod ≤ s.period := Nat.le_of_not_lt hmax
    rw [afterEpochEnd, if_neg (ne_false_of_eq_true hen), if_pos (Int.le_of_eq (provision_ge_max _ _ hmax'))]
    refine ⟨.of_sched inv.epp_pos hst (Nat.le_succ_of_le inv.le) (hG.symm ▸ inv.sched.idle hmax'), rfl, rfl, ?_⟩
    rw [mintOf, provision_ge_max { s.params with enabled := true } _ (inv.sched.max_le inv.epp_pos hmax')]
    rfl

/-! ### histories: epochs interleaved with toggles and parameter edits -/

inductive Op where
  | epoch
  | toggle (en : Bool)
  /-- an edit that keeps EpochsPerPeriod and MaxPeriod (fixed per history) -/
  | edit (factors : List Int) (ps pc pr : Int) (ppy : Nat)

def applyEdit (s : State) (factors : List Int) (ps pc pr : Int) (ppy : Nat) : State :=
  { s with params := { s.params with factors := factors, pStaking := ps, pCommunity := pc, pStrategic := pr, ppy := ppy } }

/-- one op on (state, last finished epoch number, enabled epochs so far); for an epoch op also the pair
    (minted by the model of the code, amount scheduled by the property) -/
def stepOp (s : State) (n g : Nat) : Op → (State × Nat × Nat) × Option (Int × Int)
  | .epoch =>
    let r := afterEpochEnd s (n + 1)
    if s.params.enabled then ((r.1, n + 1, g + 1), some (r.2.minted, mintOf s.params (g / s.params.epp)))
    else ((r.1, n + 1, g), some (r.2.minted, 0))
  | .toggle en => ((toggle s en, n, g), none)
  | .edit f a b c y => ((applyEdit s f a b c y, n, g), none)

def runOps (s : State) (n g : Nat) : List Op → List (Int × Int)
  | [] => []
  | op :: ops =>
    let r := stepOp s n g op
    (match r.2 with | some x => [x] | none => []) ++ runOps r.1.1 r.1.2.1 r.1.2.2 ops

/-- every state of the history has a provision that is positive below MaxPeriod (the property's hypothesis on edits) -/
def AllPositive (s : State) (n g : Nat) : List Op → Prop
  | [] => True
  | op :: ops => Positive s.params ∧ AllPositive (stepOp s n g op).1.1 (stepOp s n g op).1.2.1 (stepOp s n g op).1.2.2 ops

theorem Positive_toggle (s : State) (en : Bool) (h : Positive s.params) : Positive (toggle s en).params := by
  intro per hper; exact h per hper

theorem Inv_toggle (s : State) (n : Nat) (en : Bool) (inv : Inv s n) : Inv (toggle s en) n := by
  refine ⟨inv.epp_pos, ?_, ?_, inv.le, inv.coh, inv.done⟩
  · intro h; simp only [toggle] at h ⊢; simp [h]
  · intro h; simp only [toggle, Bool.or_eq_false_iff] at h; exact inv.fresh h.1

theorem Inv_edit (s : State) (n : Nat) (f : List Int) (a b c : Int) (y : Nat) (inv : Inv s n) :
    Inv (applyEdit s f a b c y) n :=
  ⟨inv.epp_pos, inv.en_started, inv.fresh, inv.le, inv.coh, inv.done⟩

/-- one op of a history keeps the counters coherent and `g` the number of enabled epochs, and an epoch op mints what is scheduled -/
theorem stepOp_spec (s : State) (n g : Nat) (op : Op) (inv : Inv s n) (hg : g = n - s.skipped) (hp : Positive s.params)
    (s' : State) (n' g' : Nat) (o : Option (Int × Int)) (h : stepOp s n g op = ((s', n', g'), o)) :
    Inv s' n' ∧ g' = n' - s'.skipped ∧ ∀ x, o = some x → x.1 = x.2 := by
  cases op with
  | toggle en => cases h; exact ⟨Inv_toggle s n en inv, hg, nofun⟩
  | edit f a b c y => cases h; exact ⟨Inv_edit s n f a b c y inv, hg, nofun⟩
  | epoch =>
    cases hen : s.params.enabled
    · obtain ⟨i1, -, i3, i4, -⟩ := C13_disabled_step s n inv hen
      rw [stepOp, hen, if_neg Bool.false_ne_true] at h
      cases h
      exact ⟨i1, hg.trans i4.symm, fun x hx => by cases hx; exact i3⟩
    · obtain ⟨i1, -, i3, i4⟩ := C13_enabled_step s n inv hp hen
      rw [stepOp, hen, if_pos rfl] at h
      cases h
      exact ⟨i1, by rw [i3, hg]; exact (Nat.sub_add_comm inv.le).symm, fun x hx => by cases hx; exact hg ▸ i4⟩

/-- **C13 schedule over histories.** From any coherent start (`g = n - skipped` enabled epochs so far), through any
    interleaving of day-epoch ends, toggles and parameter edits that keep EpochsPerPeriod/MaxPeriod and positivity,
    every epoch mints exactly what the schedule says: `mintOf params ⌊g/E⌋` for the (g+1)-th enabled epoch — which is 0
    once ⌊g/E⌋ ≥ MaxPeriod — and 0 for disabled epochs, which do not advance `g`. -/
theorem C13_mint_schedule (ops : List Op) (s : State) (n g : Nat) (inv : Inv s n) (hg : g = n - s.skipped)
    (hpos : AllPositive s n g ops) :
    ∀ x ∈ runOps s n g ops, x.1 = x.2 := by
  induction ops generalizing s n g with
  | nil => nofun
  | cons op ops ih =>
    obtain ⟨i1, i2, i3⟩ := stepOp_spec s n g op inv hg hpos.1 _ _ _ _ rfl
    intro x hx
    rcases List.mem_append.mp hx with h | h
    · cases hr : (stepOp s n g op).2 with
      | none => rw [hr] at h; cases h
      | some y => rw [hr] at h; exact List.mem_singleton.mp h ▸ i3 y hr
    · exact ih _ _ _ i1 i2 hpos.2 x h

/-- the default genesis (never started, all counters 0, epoch number 0) is coherent -/
theorem C13_default_genesis_coherent (p : Params) (hE : 0 < p.epp) (hen : p.enabled = false) (hst : p.started = false) :
    Inv { params := p, period := 0, skipped := 0 } 0 :=
  ⟨hE, fun h => (nomatch hen.symm.trans h), fun _ => ⟨rfl, rfl⟩, Nat.le_refl _, (Sched.zero hE).1, (Sched.zero hE).2⟩

/-- non-vacuity and a concrete schedule: E = 2, MaxPeriod = 2, constant polynomial 5 (5·10^6 per period → 2 500 000 per epoch);
    disabled epochs in between do not advance it; after 4 enabled epochs nothing is minted -/
def exParams : Params :=
  { enabled := false, started := false, epp := 2, maxPeriod := 2, ppy := 12, factors := [5 * prec],
    pStaking := 250000000000000000, pCommunity := 250000000000000000, pStrategic := 500000000000000000 }

example : runOps { params := exParams, period := 0, skipped := 0 } 0 0
    [.epoch, .toggle true, .epoch, .epoch, .toggle false, .epoch, .toggle true, .epoch, .epoch, .epoch]
    = [(0, 0), (2500000, 2500000), (2500000, 2500000), (0, 0), (2500000, 2500000), (2500000, 2500000), (0, 0)] := by
  decide +kernel

/-- a genesis accepted by validation but with incoherent counters (period 1 although no enabled epoch has happened) mints
    according to the stored period, not the schedule: outside the property's domain (documented, DESIGN §7 C13). -/
theorem C13_incoherent_genesis_witness :
    ∃ s : State, ¬ Inv s 0 ∧ (afterEpochEnd s 1).2.minted ≠ mintOf s.params 0 := by
  refine ⟨{ params := { exParams with enabled := true, started := true, factors := [1 * prec, 1 * prec] }, period := 1, skipped := 0 }, ?_, by decide⟩
  intro h; have := h.coh (by decide); simp [exParams] at this

end Nibiru.Inflation
