/-
  C10 — Oracle prices are the power-weighted median of a sufficient quorum.
  Theorems about NibiruModel.Oracle (x/oracle/keeper/ballot.go, update_exchange_rates.go, types/ballot.go).
-/
import NibiruProofs.OracleMedian
import Generated.Facts
namespace Nibiru.Oracle
open Nibiru.Dec

/-! ### the weighted median -/

/-- **Median specification.** For a ballot with non-negative powers totalling `T ≥ 2`, the published rate is the rate of a
    vote with positive power; the votes strictly below it carry less than ⌊T/2⌋ (hence at most half), and the votes strictly
    above it carry at most T − ⌊T/2⌋ = ⌈T/2⌉. -/
theorem C10_median_spec (b : List BVote) (hnn : NonnegPowers b) (hT : 2 ≤ ballotPower b) :
    (∃ v ∈ b, v.rate = weightedMedian b ∧ 0 < v.power) ∧
    powerWhere (fun r => decide (r < weightedMedian b)) b < Int.tdiv (ballotPower b) 2 ∧
    2 * powerWhere (fun r => decide (r < weightedMedian b)) b ≤ ballotPower b ∧
    powerWhere (fun r => decide (weightedMedian b < r)) b ≤ ballotPower b - Int.tdiv (ballotPower b) 2 := by
  obtain ⟨hv, hb, hr⟩ := weightedMedian_spec b hnn hT
  have := powerWhere_split b (weightedMedian b)
  rw [Int.tdiv_eq_ediv_of_nonneg (by omega)] at hb hr ⊢
  exact ⟨hv, hb, by omega, by omega⟩

/-- **Order independence.** Any two rate-sorted arrangements of the same votes (Go's `sort.Sort` is unstable, and the vote store
    order is arbitrary) give the same published rate. -/
theorem C10_median_any_sort (s₁ s₂ : List BVote) (hp : s₁.Perm s₂) (h1 : Sorted s₁) (h2 : Sorted s₂)
    (hnn : NonnegPowers s₂) (hne : s₂ ≠ []) :
    weightedMedianSorted s₁ = weightedMedianSorted s₂ := by
  have hnn1 := NonnegPowers_perm hp hnn
  have hT := ballotPower_perm hp
  by_cases h : 2 ≤ ballotPower s₂
  · have sp1 := (weightedMedianSorted_spec s₁ h1 hnn1 (hT ▸ h)).2
    exact Splits.unique hnn ((hT ▸ sp1).perm hp) (weightedMedianSorted_spec s₂ h2 hnn h).2
  · -- ⌊T/2⌋ = 0: the scan stops at the first vote, and two sorted arrangements start with the same rate
    have h0 := ballotPower_nonneg s₂ hnn
    have hh : Int.tdiv (ballotPower s₂) 2 = 0 := by rw [Int.tdiv_eq_ediv_of_nonneg h0]; omega
    match s₁, s₂ with
    | _, [] => exact absurd rfl hne
    | [], _ :: _ => exact absurd hp.symm.eq_nil (by simp)
    | a :: _, c :: _ =>
      have hac := Sorted.head_le h1 (hp.symm.subset List.mem_cons_self)
      have hca := Sorted.head_le h2 (hp.subset List.mem_cons_self)
      have := hnn1 a List.mem_cons_self
      have := hnn c List.mem_cons_self
      unfold weightedMedianSorted
      rw [hT, hh, medianScan_head _ _ _ _ (by omega), medianScan_head _ _ _ _ (by omega)]; omega

theorem C10_median_perm_invariant (a b : List BVote) (hp : a.Perm b) (hnn : NonnegPowers b) (hne : b ≠ []) :
    weightedMedian a = weightedMedian b :=
  C10_median_any_sort _ _ (((sortBallot_perm a).trans hp).trans (sortBallot_perm b).symm)
    (sortBallot_sorted a) (sortBallot_sorted b) (NonnegPowers_perm (sortBallot_perm b) hnn)
    (fun h => hne (h ▸ sortBallot_perm b).symm.eq_nil)

/-- why the property excludes ballots with less than two units of power: ⌊T/2⌋ = 0 makes the scan stop at the first (lowest)
    vote, which can be an abstention -/
theorem C10_T_lt_2_witness :
    weightedMedian [{ rate := 5, voter := "a", power := 1 }, { rate := -1, voter := "b", power := 0 }] = -1 := by decide

/-- ballots carry non-negative powers, and only positive rates carry power (abstentions count for nothing) -/
def WFBallot (b : List BVote) : Prop := ∀ v ∈ b, 0 ≤ v.power ∧ (0 < v.power → 0 < v.rate)

/-- the published rate of a quorum ballot with at least two units of power is a submitted **positive** rate -/
theorem C10_median_is_positive_vote (b : List BVote) (hwf : WFBallot b) (hT : 2 ≤ ballotPower b) :
    ∃ v ∈ b, v.rate = weightedMedian b ∧ 0 < v.rate := by
  obtain ⟨⟨v, hv, hvm, hvp⟩, _⟩ := weightedMedian_spec b (fun x hx => (hwf x hx).1) hT
  exact ⟨v, hv, hvm, (hwf v hv).2 hvp⟩

/-- **Abstentions have no influence on the median** of a ballot with at least two units of power: adding a zero-power,
    non-positive vote (what `groupVotesByPair` makes of an abstention) leaves the published rate unchanged. Only the zero power
    matters (`weightedMedian_cons_zero`). -/
theorem C10_abstain_no_influence (b : List BVote) (a : BVote) (hwf : WFBallot b) (hT : 2 ≤ ballotPower b)
    (ha0 : a.power = 0) (har : a.rate ≤ 0) : weightedMedian (a :: b) = weightedMedian b :=
  weightedMedian_cons_zero b a (fun x hx => (hwf x hx).1) hT ha0

/-! ### the ballots built from the vote store -/

/-- **Votes of validators that are not bonded have no influence**: the ballots are those of the votes whose voter is in the
    performance map (bonded validators), whatever else is in the vote store. -/
theorem C10_unbonded_votes_ignored (perfs : List Perf) (votes : List AggVote) :
    groupVotes perfs votes = groupVotes perfs (votes.filter (fun av => (findPerf perfs av.voter).isSome)) := by
  unfold groupVotes
  rw [List.foldl_filter]
  congr; funext m av
  cases findPerf perfs av.voter <;> rfl

theorem newPerfs_bonded (vals : List Validator) (p : Perf) (h : p ∈ newPerfs vals) :
    ∃ v ∈ vals, v.bonded = true ∧ v.addr = p.addr ∧ v.power = p.power := by
  obtain ⟨v, hv, rfl⟩ := List.mem_map.mp h
  exact ⟨v, (List.mem_filter.mp hv).1, (List.mem_filter.mp hv).2, rfl, rfl⟩

/-- every ballot after `addToBallot` was there before, or is the ballot of `pair`: new, or the old one with `v` appended -/
theorem mem_addToBallot (m : List (String × List BVote)) (pair : String) (v : BVote) (pb : String × List BVote)
    (h : pb ∈ addToBallot m pair v) : pb ∈ m ∨ pb = (pair, [v]) ∨ ∃ l, (pair, l) ∈ m ∧ pb = (pair, l ++ [v]) := by
  induction m with
  | nil => exact Or.inr (Or.inl (List.mem_singleton.mp h))
  | cons x xs ih =>
    obtain ⟨p, l⟩ := x
    unfold addToBallot at h
    split at h
    · exact (List.mem_cons.mp h).symm.imp_right Or.inl
    split at h
    · rename_i hp
      subst hp
      rcases List.mem_cons.mp h with e | e
      · exact Or.inr (Or.inr ⟨l, List.mem_cons_self, e⟩)
      · exact Or.inl (List.mem_cons_of_mem _ e)
    · rcases List.mem_cons.mp h with e | e
      · exact Or.inl (e ▸ List.mem_cons_self)
      · exact (ih e).imp (List.mem_cons_of_mem _) (Or.imp_right fun ⟨l', hl, e'⟩ => ⟨l', List.mem_cons_of_mem _ hl, e'⟩)

/-- `groupVotes` only ever grows its result by `addToBallot` of a vote cast by someone in the performance map, with that
    validator's power, or none for an abstention -/
theorem groupVotes_induct (perfs : List Perf) (votes : List AggVote) (P : List (String × List BVote) → Prop) (h0 : P [])
    (hadd : ∀ m pair voter rate (p : Perf), p ∈ perfs → P m →
      P (addToBallot m pair { rate := rate, voter := voter, power := if rate > 0 then p.power else 0 })) :
    P (groupVotes perfs votes) := by
  unfold groupVotes
  generalize ([] : List (String × List BVote)) = m at h0
  induction votes generalizing m with
  | nil => exact h0
  | cons av vs ih =>
    simp only [List.foldl_cons]
    apply ih
    cases hf : findPerf perfs av.voter with
    | none => exact h0
    | some p =>
      simp only
      generalize av.tuples = ts
      induction ts generalizing m with
      | nil => exact h0
      | cons t ts ih2 => exact ih2 _ (hadd _ _ _ _ _ (List.mem_of_find?_eq_some hf) h0)

theorem addToBallot_wf (m : List (String × List BVote)) (pair : String) (v : BVote)
    (hv : 0 ≤ v.power ∧ (0 < v.power → 0 < v.rate)) (hm : ∀ pb ∈ m, WFBallot pb.2) :
    ∀ pb ∈ addToBallot m pair v, WFBallot pb.2 := by
  intro pb hpb x hx
  rcases mem_addToBallot m pair v pb hpb with h | rfl | ⟨l, hl, rfl⟩
  · exact hm pb h x hx
  · exact List.mem_singleton.mp hx ▸ hv
  · rcases List.mem_append.mp hx with h | h
    · exact hm _ hl x h
    · exact List.mem_singleton.mp h ▸ hv

theorem groupVotes_wf (perfs : List Perf) (votes : List AggVote) (hp : ∀ p ∈ perfs, 0 ≤ p.power) :
    ∀ pb ∈ groupVotes perfs votes, WFBallot pb.2 :=
  groupVotes_induct perfs votes (fun m => ∀ pb ∈ m, WFBallot pb.2) (fun _ h => nomatch h) (fun m pair _ rate p hpm hm =>
    addToBallot_wf m pair _ (by
      have := hp p hpm
      by_cases hr : rate > 0 <;> simp [hr] <;> omega) hm)

def KeysSorted (m : List (String × List BVote)) : Prop := (m.map (·.1)).Pairwise (· < ·)

theorem str_lt_of_not (a b : String) (h1 : ¬ a < b) (h2 : a ≠ b) : b < a := by
  by_cases h : b < a
  · exact h
  · exact absurd (String.le_antisymm (String.not_lt.mp h) (String.not_lt.mp h1)) h2

theorem addToBallot_keys (m : List (String × List BVote)) (pair : String) (v : BVote) (k : String)
    (hk : k ∈ (addToBallot m pair v).map (·.1)) : k = pair ∨ k ∈ m.map (·.1) := by
  obtain ⟨pb, hpb, rfl⟩ := List.mem_map.mp hk
  rcases mem_addToBallot m pair v pb hpb with h | rfl | ⟨l, _, rfl⟩
  · exact Or.inr (List.mem_map_of_mem h)
  · exact Or.inl rfl
  · exact Or.inl rfl

theorem addToBallot_sorted (m : List (String × List BVote)) (pair : String) (v : BVote) (h : KeysSorted m) :
    KeysSorted (addToBallot m pair v) := by
  induction m with
  | nil => simp [addToBallot, KeysSorted]
  | cons x xs ih =>
    obtain ⟨p, l⟩ := x
    have hx := List.pairwise_cons.mp h
    unfold addToBallot
    split
    · rename_i h1
      exact List.pairwise_cons.mpr ⟨fun a ha => by
        rcases List.mem_cons.mp ha with rfl | e
        · exact h1
        · exact String.lt_trans h1 (hx.1 a e), h⟩
    split
    · exact h
    · rename_i h1 h2
      exact List.pairwise_cons.mpr ⟨fun a ha => by
        rcases addToBallot_keys xs pair v a ha with rfl | e
        · exact str_lt_of_not _ _ h1 h2
        · exact hx.1 a e, ih hx.2⟩

theorem groupVotes_sorted (perfs : List Perf) (votes : List AggVote) : KeysSorted (groupVotes perfs votes) :=
  groupVotes_induct perfs votes KeysSorted List.Pairwise.nil (fun m _ _ _ _ _ h => addToBallot_sorted m _ _ h)

theorem passing_iff (b : List BVote) (tp : Int) (mv : Nat) :
    passing b tp mv = true ↔ ballotPower b ≠ 0 ∧ tp ≤ ballotPower b ∧ mv ≤ numValidVoters b := by
  simp only [passing]
  split
  · simp [*]
  split
  · simp; omega
  split <;> simp <;> omega

/-- **Quorum rule.** A ballot survives `removeInvalidVotes` iff its pair is whitelisted and its non-abstaining votes total a
    non-zero power of at least round(VoteThreshold × bonded power) and come from at least MinVoters validators. -/
theorem C10_quorum_rule (ballots : List (String × List BVote)) (wl : List String) (tp : Int) (mv : Nat) (pb : String × List BVote) :
    pb ∈ (removeInvalid ballots wl tp mv).1 ↔
      pb ∈ ballots ∧ pb.1 ∈ wl ∧ ballotPower pb.2 ≠ 0 ∧ tp ≤ ballotPower pb.2 ∧ mv ≤ numValidVoters pb.2 := by
  simp only [removeInvalid, List.mem_filter, Bool.and_eq_true, List.contains_iff_mem, passing_iff]

/-! ### what is published -/

def lookupRate (rs : List Rate) (p : String) : Option Rate := rs.find? (fun r => r.pair = p)
def lookupBallot (bs : List (String × List BVote)) (p : String) : Option (List BVote) := (bs.find? (fun x => x.1 = p)).map (·.2)

theorem lookupRate_cons (x : Rate) (xs : List Rate) (p : String) :
    lookupRate (x :: xs) p = if x.pair = p then some x else lookupRate xs p := by
  unfold lookupRate
  by_cases h : x.pair = p <;> simp [h]

theorem lookupBallot_cons (x : String × List BVote) (xs : List (String × List BVote)) (p : String) :
    lookupBallot (x :: xs) p = if x.1 = p then some x.2 else lookupBallot xs p := by
  unfold lookupBallot
  by_cases h : x.1 = p <;> simp [h]

theorem lookupBallot_eq_none (bs : List (String × List BVote)) (p : String) (h : p ∉ bs.map (·.1)) :
    lookupBallot bs p = none := by
  induction bs with
  | nil => rfl
  | cons x xs ih =>
    simp only [List.map_cons, List.mem_cons, not_or] at h
    rw [lookupBallot_cons, if_neg (fun e => h.1 e.symm), ih h.2]

theorem lookup_setRate (rs : List Rate) (r : Rate) (p : String) :
    lookupRate (setRate rs r) p = if r.pair = p then some r else lookupRate rs p := by
  induction rs with
  | nil => exact lookupRate_cons r [] p
  | cons x xs ih =>
    unfold setRate
    split
    · exact lookupRate_cons ..
    split
    · rename_i h
      rw [lookupRate_cons, lookupRate_cons, ← h]
      split <;> rfl
    · rename_i h
      rw [lookupRate_cons, lookupRate_cons, ih]
      by_cases h1 : r.pair = p <;> by_cases h2 : x.pair = p <;> simp [h1, h2]
      exact absurd (h1.trans h2.symm) h

theorem mem_setRate_other (rs : List Rate) (r x : Rate) (h : x.pair ≠ r.pair) : x ∈ setRate rs r ↔ x ∈ rs := by
  have hxr : x ≠ r := fun e => h (e ▸ rfl)
  induction rs with
  | nil => simp [setRate, hxr]
  | cons y ys ih =>
    unfold setRate
    split
    · simp [hxr]
    split
    · rename_i h2
      have : x ≠ y := fun e => h (e ▸ h2.symm)
      simp [hxr, this]
    · simp [ih]

/-- the per-pair loop publishes, for every surviving ballot, its weighted median stamped with the current height, and leaves
    every other stored rate alone -/
theorem lookup_tallyAll (band : Int) (height : Nat) (bs : List (String × List BVote)) (perfs : List Perf) (rates : List Rate)
    (hd : KeysSorted bs) (p : String) :
    lookupRate (tallyAll band height bs perfs rates).2 p =
      match lookupBallot bs p with
      | some b => some { pair := p, rate := weightedMedian b, created := height }
      | none => lookupRate rates p := by
  induction bs generalizing perfs rates with
  | nil => rfl
  | cons x xs ih =>
    obtain ⟨hx, hd'⟩ := List.pairwise_cons.mp hd
    rw [tallyAll, ih _ _ hd', lookupBallot_cons, lookup_setRate]
    by_cases hp : x.1 = p
    · subst hp
      rw [lookupBallot_eq_none xs _ (fun hm => String.lt_irrefl _ (hx _ hm))]
      simp only [if_true]; rfl
    · simp only [hp, if_false]

/-- rates of pairs that were not refreshed in this period are untouched by the tally loop -/
theorem mem_tallyAll_other (band : Int) (height : Nat) (bs : List (String × List BVote)) (perfs : List Perf) (rates : List Rate)
    (x : Rate) (h : x.pair ∉ bs.map (·.1)) : x ∈ (tallyAll band height bs perfs rates).2 ↔ x ∈ rates := by
  induction bs generalizing perfs rates with
  | nil => rfl
  | cons y ys ih =>
    simp only [List.map_cons, List.mem_cons, not_or] at h
    rw [tallyAll, ih _ _ h.2]
    exact mem_setRate_other _ _ _ h.1

/-- **Expiry.** A stored rate whose pair is not refreshed at this period end is kept iff it is younger than
    ExpirationBlocks: it is dropped at the first period end with `created + ExpirationBlocks ≤ height`. A refreshed pair's old
    rate is always removed (and replaced by `lookup_tallyAll`). -/
theorem C10_expiry (rs : List Rate) (valid : List String) (exp height : Nat) (x : Rate) :
    x ∈ clearRates rs valid exp height ↔ x ∈ rs ∧ x.pair ∉ valid ∧ height < x.created + exp := by
  simp [clearRates, Nat.not_le]

theorem removeInvalid_sorted (bs : List (String × List BVote)) (wl : List String) (tp : Int) (mv : Nat)
    (h : KeysSorted bs) : KeysSorted (removeInvalid bs wl tp mv).1 :=
  h.sublist (List.filter_sublist.map _)

/-- **End-to-end statement for one period end.**  With `ballots` the per-pair votes of bonded validators that pass the whitelist
    and quorum rule (`C10_quorum_rule`), after `UpdateExchangeRates` every pair `p` reads:
    the power-weighted median of its ballot, stamped with the current height, if it has a surviving ballot; otherwise its previous
    rate, provided that rate has not expired (`C10_expiry`); nothing else. -/
theorem C10_published_rates (s : State) (p : Params) (vals : List Validator) (tb : Int) (height : Nat) (pair : String) :
    let ballots := (removeInvalid (groupVotes (newPerfs vals) s.votes) s.whitelist (thresholdPower p tb) p.minVoters).1
    lookupRate (updateExchangeRates s p vals tb height).1.rates pair =
      match lookupBallot ballots pair with
      | some b => some { pair := pair, rate := weightedMedian b, created := height }
      | none => lookupRate (clearRates s.rates (ballots.map (·.1)) p.expiration height) pair :=
  lookup_tallyAll p.band height _ (newPerfs vals) _ (removeInvalid_sorted _ _ _ _ (groupVotes_sorted _ _)) pair

/-! ### the vote targets of the next period -/

theorem refreshWhitelist_eq (store next cur : List String) :
    refreshWhitelist store next cur =
      if cur.length ≠ next.length ∨ ∃ p ∈ next, p ∉ cur then sortBy (fun a b => decide (a ≤ b)) next.eraseDups else store := by
  simp [refreshWhitelist]

/-- **The vote targets of the next period.** The period end leaves the stored whitelist alone or replaces it by exactly the
    whitelist parameter (sorted, duplicates removed): a de-listed pair is a target of the next period only if the store was not
    rewritten at all, and no pair outside the parameter ever enters it. -/
theorem C10_next_targets_are_old_or_the_parameter (store next cur : List String) :
    refreshWhitelist store next cur = store ∨
    refreshWhitelist store next cur = sortBy (fun a b => decide (a ≤ b)) next.eraseDups := by
  rw [refreshWhitelist_eq]
  split
  · exact Or.inr rfl
  · exact Or.inl rfl

/-- … and it IS rewritten whenever the parameter names a pair that the surviving set lacks or the two differ in size — in
    particular when one pair was swapped for another -/
theorem C10_refresh_when_a_new_pair_is_listed (store next cur : List String) (p : String) (hp : p ∈ next) (hn : p ∉ cur) :
    refreshWhitelist store next cur = sortBy (fun a b => decide (a ≤ b)) next.eraseDups := by
  rw [refreshWhitelist_eq, if_pos (Or.inr ⟨p, hp, hn⟩)]

/-! ### T1 (regenerated from x/oracle/abci.go and x/oracle/types/core.go on every run) -/

/-- the tally runs exactly at the last block of a vote period: the end blocker calls `UpdateExchangeRates` under `IsPeriodLastBlock(VotePeriod)` and
    `SlashAndResetMissCounters` under `IsPeriodLastBlock(SlashWindow)`, nothing else, and a period's last block is the one whose
    height + 1 is a multiple of the period (the correspondence run calls the two keeper functions directly) -/
theorem fact_C10_end_blocker_gates :
    Generated.oracleEndBlockerCalls =
      [("types.IsPeriodLastBlock(ctx, params.VotePeriod)", "UpdateExchangeRates"),
       ("types.IsPeriodLastBlock(ctx, params.SlashWindow)", "SlashAndResetMissCounters")] ∧
    Generated.oraclePeriodLastBlockExpr = "((uint64)(ctx.BlockHeight())+1)%blocksPerPeriod == 0" := ⟨rfl, rfl⟩

end Nibiru.Oracle
