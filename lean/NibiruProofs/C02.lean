/-
  C02 — An Ethereum tx message executes only behind the EVM ante pipeline.
  Theorems about NibiruModel.MsgTree.
-/
import NibiruProofs.MsgTreeLemmas
import Generated.Facts
namespace Nibiru.MsgTree

/-- a tx is signed by Cosmos-capable accounts: every top-level message other than a MsgEthereumTx has a signer that is not
    Ethereum-only (the signature check refuses eth_secp256k1 keys, so an Ethereum-only address can never have signed) -/
def CosmosSigned (E : EthOnly) (tx : Tx) : Prop := ∀ m ∈ tx.msgs, isEth m = false → E m.signer = false

/-- **C02.** For every state without grants from Ethereum-only addresses, every transaction — any message tree, any depth, any
    grant configuration, either commission guard — if it is accepted then the EthereumTx handler ran outside the EVM admission
    pipeline exactly zero times: a MsgEthereumTx takes effect only as a direct message of a tx carrying the EVM extension option,
    all of whose messages went through the EVM ante chain. The grant invariant is preserved, so the statement holds along every
    history. -/
theorem C02_ethTx_only_behind_evm_ante (E : EthOnly) (g : CommGuard) (s s' : State) (tx : Tx) (hinv : Inv E s)
    (hwf : WFs E tx.msgs) (hsig : CosmosSigned E tx) (h : deliver g s tx = some s') :
    s'.ethRuns = s.ethRuns ∧ Inv E s' ∧ (tx.evmExt = true → tx.msgs.all isEth = true ∧ s'.ethLegit = s.ethLegit + tx.msgs.length) ∧
    (tx.evmExt = false → s'.ethLegit = s.ethLegit ∧ tx.msgs.all guardEth = true) := by
  rcases deliver_some g s s' tx h with ⟨hext, hall, e⟩ | ⟨hext, hge, _, hrun⟩
  · subst e
    exact ⟨rfl, hinv, fun _ => ⟨hall, rfl⟩, fun h' => absurd (hext.symm.trans h') nofun⟩
  · -- a message that passed `guardEth` at top level is not a MsgEthereumTx, so its signer can sign a Cosmos tx
    have hne : ∀ m ∈ tx.msgs, isEth m = false := fun m hm => by
      have := List.all_eq_true.mp hge m hm
      cases m <;> first | rfl | cases this
    have hs : ∀ m ∈ tx.msgs, E m.signer = false ∧ WF E m := fun m hm => ⟨hsig m hm (hne m hm), (WFs_iff E _).mp hwf m hm⟩
    obtain ⟨i1, i2⟩ := runAll_preserves (noEth_preserved E s.ethRuns) tx.msgs s s' ⟨rfl, hinv⟩ hs hrun
    exact ⟨i1, i2, fun h' => absurd (hext.symm.trans h') nofun,
      fun _ => ⟨runAll_preserves (legit_preserved s.ethLegit) tx.msgs s s' rfl (fun _ _ => trivial) hrun, hge⟩⟩

/-- running a history of transactions (rejected ones leave the state alone) -/
def runTxs (g : CommGuard) (s : State) : List Tx → State
  | [] => s
  | tx :: txs => runTxs g ((deliver g s tx).getD s) txs

/-- **C02 over histories**: from a state without Ethereum-only granters (e.g. genesis), whatever transactions are delivered, the
    EthereumTx handler is never reached outside the EVM pipeline — in particular nobody can collect a gas refund that was not paid
    for or rewind a nonce through a wrapper. -/
theorem C02_history (E : EthOnly) (g : CommGuard) (txs : List Tx) (s : State) (hinv : Inv E s)
    (hok : ∀ tx ∈ txs, WFs E tx.msgs ∧ CosmosSigned E tx) : (runTxs g s txs).ethRuns = s.ethRuns := by
  induction txs generalizing s with
  | nil => rfl
  | cons tx txs ih =>
    simp only [runTxs]
    obtain ⟨h1, h2⟩ := hok tx List.mem_cons_self
    cases hd : deliver g s tx with
    | none => simp only [Option.getD]; exact ih s hinv (fun t ht => hok t (List.mem_cons_of_mem _ ht))
    | some s1 =>
      simp only [Option.getD]
      obtain ⟨i1, i2, _, _⟩ := C02_ethTx_only_behind_evm_ante E g s s1 tx hinv h1 h2 hd
      rw [ih s1 i2 (fun t ht => hok t (List.mem_cons_of_mem _ ht)), i1]

/-- non-vacuity: a depth-3 wrapper around a MsgEthereumTx, with grants in the state; the hypotheses hold and the tx is refused
    (the inner dispatch finds no grant from the Ethereum-only sender) -/
example :
    Inv (fun a => a == ethAcct) { grants := [(1, 0, .exec), (0, 2, .eth)] } ∧
    WFs (fun a => a == ethAcct) [.exec 0 [.exec 1 [.exec 1 [.eth ethAcct]]], .send 0] ∧
    deliver .throughExec { grants := [(1, 0, .exec), (0, 2, .eth)] }
      { evmExt := false, sigOk := true, msgs := [.exec 0 [.exec 1 [.exec 1 [.eth ethAcct]]], .send 0] } = none ∧
    (deliver .throughExec { grants := [(1, 0, .exec), (0, 2, .eth)] }
      { evmExt := false, sigOk := true, msgs := [.exec 0 [.exec 1 [.send 1]]] }).isSome = true := by
  refine ⟨?_, by simp [WFs, WF, ethAcct], by decide +kernel, by decide +kernel⟩
  unfold Inv; decide +kernel

/-! ### T1: the ante chains and the extension-option routing (regenerated from the source on every run) -/

/-- the two Ethereum guards are the first decorators of the non-EVM chain, and the signature checks are present -/
theorem fact_C02_nonEVM_chain : Generated.anteChainNonEVM =
    ["ante.AnteDecoratorPreventEtheruemTxMsgs", "ante.AnteDecoratorAuthzGuard", "authante.NewSetUpContextDecorator",
     "wasmkeeper.NewLimitSimulationGasDecorator", "wasmkeeper.NewCountTXDecorator", "authante.NewExtensionOptionsDecorator",
     "authante.NewValidateBasicDecorator", "authante.NewTxTimeoutHeightDecorator", "authante.NewValidateMemoDecorator",
     "ante.AnteDecoratorEnsureSinglePostPriceMessage", "ante.AnteDecoratorStakingCommission",
     "authante.NewConsumeGasForTxSizeDecorator", "authante.NewDeductFeeDecorator", "devgasante.NewDevGasPayoutDecorator",
     "authante.NewSetPubKeyDecorator", "authante.NewValidateSigCountDecorator", "authante.NewSigGasConsumeDecorator",
     "authante.NewSigVerificationDecorator", "authante.NewIncrementSequenceDecorator", "ibcante.NewRedundantRelayDecorator",
     "ante.AnteDecoratorGasWanted"] := rfl

/-- the signer of a MsgEthereumTx is derived from its signature only: GetSigners / GetSender never READ the unauthenticated
    wire field `From` (the model's `Msg.signer (.eth s) = s` with `s` the recovered address rests on this) -/
theorem fact_C02_eth_signer_is_recovered :
    Generated.ethTxSignerReadsOfFrom = [] ∧ Generated.ethTxGetSignersReturns = ["[]sdk.AccAddress{signer}"] := ⟨rfl, rfl⟩

/-- only the Ethereum extension option selects the EVM chain; every other extension option is rejected -/
theorem fact_C02_extension_routing : Generated.anteExtensionRouting =
    ["\"/eth.evm.v1.ExtensionOptionsEthereumTx\"=>evm-chain", "default=>reject"] := rfl

/-- the mechanism behind `EthAddrDisjoint` (an account recovered from an Ethereum signature cannot sign a Cosmos tx): wherever the
    application configures the signature gas consumer of the Cosmos ante chain it is the SDK's `DefaultSigVerificationGasConsumer`,
    which rejects every key type it does not know — `eth_secp256k1` among them -/
theorem fact_C02_cosmos_signature_path_rejects_eth_keys :
    Generated.sigGasConsumerValues =
      ["app/ante/handler_opts.go: sdkante.DefaultSigVerificationGasConsumer",
       "app/app.go: authante.DefaultSigVerificationGasConsumer"] := rfl

end Nibiru.MsgTree
