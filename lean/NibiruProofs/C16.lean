/-
  C16 — Privileged chain operations succeed only for current sudoers.
  Theorems about NibiruModel.Sudo (x/sudo keeper + msg server, and the four sudo-gated entry points).
-/
import NibiruModel.Sudo
import Generated.Facts
namespace Nibiru.Sudo

theorem run_fst_of_err (s : State) (g : Option Err) (eff : State) (e : Err) (h : (run s g eff).2 = some e) : (run s g eff).1 = s := by
  unfold run at *; cases g <;> simp_all

theorem run_ok (s : State) (g : Option Err) (eff : State) (h : (run s g eff).2 = none) : g = none ∧ (run s g eff).1 = eff := by
  unfold run at *; cases g <;> simp_all

theorem run_ok_iff (s : State) (g : Option Err) (eff : State) : (run s g eff).2 = none ↔ g = none := by
  unfold run; cases g <;> simp

theorem firstErr_none_cons (b : Bool) (e : Err) (rest : List (Bool × Err)) :
    firstErr ((b, e) :: rest) = none ↔ b = false ∧ firstErr rest = none := by
  cases b <;> simp [firstErr]

/-- **A rejected privileged message changes no state.** -/
theorem C16_rejected_no_change (s : State) (op : Op) (e : Err) (h : (apply s op).2 = some e) : (apply s op).1 = s := by
  cases op <;> exact run_fst_of_err _ _ _ e h

/-- **Gate.** A sudo-gated operation is accepted iff the sender decodes as an address and that address is a currently listed
    contract or the current root (compared as addresses). -/
theorem C16_gated_iff_root_or_listed (s : State) (t : Target) (sender : String) :
    (gated s t sender).2 = none ↔
      sender ∈ s.valid ∧ (canon sender ∈ s.contracts ∨ (s.root ∈ s.valid ∧ canon sender = canon s.root)) := by
  unfold gated
  rw [run_ok_iff]
  unfold gatedGuard hasPermission
  simp only [firstErr_none_cons, Bool.not_eq_false', Bool.or_eq_true, Bool.and_eq_true, List.contains_iff_mem, beq_iff_eq]
  constructor
  · rintro ⟨h1, h2, _⟩; exact ⟨h1, h2⟩
  · rintro ⟨h1, h2⟩; exact ⟨h1, h2, rfl⟩

/-- an accepted gated operation writes exactly its own store, once; sudoers are untouched -/
theorem C16_gated_effect (s : State) (t : Target) (sender : String) (h : (gated s t sender).2 = none) :
    (gated s t sender).1.root = s.root ∧ (gated s t sender).1.contracts = s.contracts ∧
    (gated s t sender).1.writes t = s.writes t + 1 ∧ ∀ t', t' ≠ t → (gated s t sender).1.writes t' = s.writes t' := by
  obtain ⟨_, he⟩ := run_ok _ _ _ h
  unfold gated at *
  rw [he]
  refine ⟨rfl, rfl, by simp [bump], fun t' ht => by simp [bump, ht]⟩

/-- **Only the current root edits the contract list or hands the role over.** If a message changes the root or the contract
    list, it is an `EditSudoers` whose sender string is the stored root, or a `ChangeRoot` whose sender is the root address. -/
theorem C16_only_root_edits_or_hands_over (s : State) (op : Op)
    (hch : (apply s op).1.root ≠ s.root ∨ (apply s op).1.contracts ≠ s.contracts) :
    (∃ sender act cs, op = .edit sender act cs ∧ sender = s.root ∧ sender ∈ s.valid) ∨
    (∃ sender new, op = .changeRoot sender new ∧ canon sender = canon s.root ∧ sender ∈ s.valid ∧ new ∈ s.valid ∧
        (apply s op).1.root = new ∧ (apply s op).1.contracts = s.contracts) := by
  have hne : (apply s op).1 ≠ s := by
    intro e; rw [e] at hch; rcases hch with h | h <;> exact h rfl
  cases op with
  | gated t sender =>
    exfalso
    cases h : (gated s t sender).2 with
    | some e => exact hne (run_fst_of_err _ _ _ e h)
    | none =>
      obtain ⟨h1, h2, _⟩ := C16_gated_effect s t sender h
      rcases hch with h' | h'
      · exact h' h1
      · exact h' h2
  | edit sender act cs =>
    left
    cases h : (editSudoers s sender act cs).2 with
    | some e => exact absurd (run_fst_of_err _ _ _ e h) hne
    | none =>
      obtain ⟨hg, _⟩ := run_ok _ _ _ h
      unfold editGuard at hg
      simp only [firstErr_none_cons, Bool.or_eq_false_iff, Bool.not_eq_false', bne_eq_false_iff_eq, List.contains_iff_mem] at hg
      exact ⟨sender, act, cs, rfl, hg.2.1, hg.1.1.1⟩
  | changeRoot sender new =>
    right
    cases h : (changeRoot s sender new).2 with
    | some e => exact absurd (run_fst_of_err _ _ _ e h) hne
    | none =>
      obtain ⟨hg, he⟩ := run_ok _ _ _ h
      unfold changeRootGuard at hg
      simp only [firstErr_none_cons, Bool.or_eq_false_iff, Bool.not_eq_false', bne_eq_false_iff_eq, List.contains_iff_mem] at hg
      obtain ⟨⟨h1, h2⟩, _, h4, _⟩ := hg
      refine ⟨sender, new, rfl, h4, h1, h2, ?_, ?_⟩
      · show (run s (changeRootGuard s sender new) { s with root := new }).1.root = new
        rw [he]
      · show (run s (changeRootGuard s sender new) { s with root := new }).1.contracts = s.contracts
        rw [he]

/-- **Stale membership gives nothing**: once the root has removed a contract (by the canonical string under which it is listed),
    that address is refused — unless it is the root itself. -/
theorem C16_removed_contract_loses_access (s : State) (c : String) (t : Target) (hroot : s.root ∈ s.valid)
    (hc : c ∈ s.valid) (hcanon : canon c = c) (hnr : canon c ≠ canon s.root) :
    (gated (editSudoers s s.root .remove [c]).1 t c).2 = some .unauthorized := by
  have hg : editGuard s s.root .remove [c] = none := by
    unfold editGuard
    simp [firstErr, hroot, hc]
  have hs : (editSudoers s s.root .remove [c]).1 = { s with contracts := s.contracts.filter (fun x => !([c].contains x)) } := by
    unfold editSudoers run; rw [hg]; rfl
  rw [hs]
  unfold gated run gatedGuard hasPermission
  have hnot : ¬ (c ∈ s.contracts.filter (fun x => !([c].contains x))) := by
    intro hm; have := (List.mem_filter.mp hm).2; simp at this
  have hnr' : ¬ c = canon s.root := by rw [← hcanon]; exact hnr
  have hnot' : ¬ (c ∈ s.contracts ∧ ¬ c = c) := fun h => h.2 rfl
  simp [firstErr, hcanon, hnr', hc, hroot]

/-- after a hand-over the former root is refused (unless it is listed or the new root decodes to the same address) -/
theorem C16_former_root_loses_access (s : State) (new : String) (t : Target) (hroot : s.root ∈ s.valid) (hnew : new ∈ s.valid)
    (hdiff : canon s.root ≠ canon new) (hnl : canon s.root ∉ s.contracts) :
    (gated (changeRoot s s.root new).1 t s.root).2 = some .unauthorized := by
  have hg : changeRootGuard s s.root new = none := by
    unfold changeRootGuard
    simp [firstErr, hroot, hnew]
  have hs : (changeRoot s s.root new).1 = { s with root := new } := by
    unfold changeRoot run; rw [hg]
  rw [hs]
  unfold gated run gatedGuard hasPermission
  simp [firstErr, hroot, hnl, hdiff, hnew]

/-- a hand-over removes nobody from the list: whatever `changeRoot` does (accepted or refused), the contracts are the ones there
    were, and a listed contract is served afterwards exactly as before -/
theorem C16_hand_over_keeps_listed_contracts (s : State) (sender new c : String) (t : Target) (hc : c ∈ s.valid)
    (hl : canon c ∈ s.contracts) :
    (changeRoot s sender new).1.contracts = s.contracts ∧ (gated (changeRoot s sender new).1 t c).2 = none := by
  have hcs : (changeRoot s sender new).1.contracts = s.contracts ∧ (changeRoot s sender new).1.valid = s.valid := by
    unfold changeRoot run
    cases changeRootGuard s sender new with
    | none => exact ⟨rfl, rfl⟩
    | some e => exact ⟨rfl, rfl⟩
  refine ⟨hcs.1, ?_⟩
  rw [C16_gated_iff_root_or_listed]
  exact ⟨by rw [hcs.2]; exact hc, Or.inl (by rw [hcs.1]; exact hl)⟩

/-- histories: whatever happened before, acceptance of a gated operation is decided by the sudoers *at the time of the call* -/
def runOps (s : State) : List Op → State
  | [] => s
  | op :: ops => runOps (apply s op).1 ops

theorem C16_gate_at_time_of_call (s₀ : State) (ops : List Op) (t : Target) (sender : String) :
    let s := runOps s₀ ops
    (gated s t sender).2 = none ↔
      sender ∈ s.valid ∧ (canon sender ∈ s.contracts ∨ (s.root ∈ s.valid ∧ canon sender = canon s.root)) :=
  C16_gated_iff_root_or_listed _ t sender

/- Non-vacuity: the correspondence run executes thousands of accepted and refused gated operations, root edits and hand-overs
   on the real keepers (evidence: generator_distribution). A closed-term `decide` example is not possible because
   `String.toLower` is not kernel-reducible. -/

end Nibiru.Sudo

/-! ### T1: the gated entry points of the code are exactly the modelled ones (facts regenerated from /repo on every run) -/
section Facts

/-- the functions of the node that consult `CheckPermissions` are exactly the four modelled `Target`s -/
theorem fact_C16_sudoCheckSites : Generated.sudoCheckSites =
    ["x/inflation/keeper:sudoExtension.EditInflationParams", "x/inflation/keeper:sudoExtension.ToggleInflation",
     "x/oracle/keeper:msgServer.EditOracleParams", "x/tokenfactory/keeper:Keeper.SudoSetDenomMetadata"] := rfl

/-- in each of them the check precedes the first store write -/
theorem fact_C16_sudoCheckOrder : Generated.sudoCheckOrder =
    ["x/inflation/keeper:sudoExtension.EditInflationParams=check-before-write",
     "x/inflation/keeper:sudoExtension.ToggleInflation=check-before-write",
     "x/oracle/keeper:msgServer.EditOracleParams=check-before-write",
     "x/tokenfactory/keeper:Keeper.SudoSetDenomMetadata=check-before-write"] := rfl

/-- root-only operations: both EditSudoers branches and ChangeRoot carry their root check -/
theorem fact_C16_sudoRootCheckSites : Generated.sudoRootCheckSites =
    ["senderHasPermission@x/sudo/keeper:Keeper.AddContracts", "senderHasPermission@x/sudo/keeper:Keeper.RemoveContracts",
     "validateRootPermissions@x/sudo/keeper:MsgServer.ChangeRoot"] := rfl

end Facts
