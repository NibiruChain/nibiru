/-
  SurfC19 — GENERATED by bin/pin-surface (a developer tool) on the tree the models were written against; committed.
  The fingerprints of the functions property C19's model was written from (lib/surface.json) as they were then; the
  extractor recomputes them from /repo on every run (Generated.surface_C19).  A difference means that a modelled function
  changed structurally: the hand-written model is then no longer known to describe it, the obligation breaks and the check
  searches for a failing input (DESIGN §3, T1-S).
-/
import Generated.Facts

namespace Nibiru.Surface

def expected_C19 : List (String × String) := [
  ("app/evmante/evmante_emit_event.go:EthEmitEventDecorator.AnteHandle", "6a9b4fb1f183600c"),
  ("app/evmante/evmante_emit_event.go:NewEthEmitEventDecorator", "e7f6c6f34df21a80"),
  ("x/evm/keeper/evm_state.go:EvmState.CalcBloomFromLogs", "32b54e717f44a5a1"),
  ("x/evm/keeper/evm_state.go:EvmState.GetBlockBloomTransient", "9717d00195b24f62"),
  ("x/evm/keeper/evm_state.go:EvmState.GetContractBytecode", "661132a91cc2867d"),
  ("x/evm/keeper/evm_state.go:EvmState.SetAccCode", "b51722817a9f7bf9"),
  ("x/evm/keeper/evm_state.go:EvmState.SetAccState", "e64ad1325c2a9cf8"),
  ("x/evm/keeper/evm_state.go:Keeper.EVMState", "71246f531e933924"),
  ("x/evm/keeper/evm_state.go:Keeper.GetAccNonce", "e680101ea223609b"),
  ("x/evm/keeper/evm_state.go:Keeper.GetParams", "f523964b874642dc"),
  ("x/evm/keeper/evm_state.go:Keeper.GetState", "e969ca2b45bb1e25"),
  ("x/evm/keeper/evm_state.go:Keeper.SetParams", "53eadec85bf540e7"),
  ("x/evm/keeper/evm_state.go:NewEvmState", "8cb64237fa4062c3"),
  ("x/evm/keeper/funtoken_from_coin.go:Keeper.deployERC20ForBankCoin", "454d9e4011eef275"),
  ("x/evm/keeper/hooks.go:Keeper.BeginBlock", "7be0d97900f2418e"),
  ("x/evm/keeper/hooks.go:Keeper.EndBlock", "10b44fb3d08c012b"),
  ("x/evm/keeper/msg_server.go:Keeper.EmitEthereumTxEvents", "807d02da330be683"),
  ("x/evm/keeper/msg_server.go:Keeper.EthereumTx", "ff1cfaf67307fa3e"),
  ("x/evm/keeper/msg_server.go:Keeper.convertCoinToEvmBornCoin", "25a55dc7beb8188b"),
  ("x/evm/keeper/msg_server.go:Keeper.convertCoinToEvmBornERC20", "ab1d2bee6473e7fb"),
  ("x/evm/keeper/msg_server.go:Keeper.updateBlockBloom", "0506a6a527e913c5"),
  ("x/evm/keeper/vm_config.go:Keeper.TxConfig", "3f445ca5ed71c086"),
  ("x/evm/statedb/statedb.go:StateDB.AddLog", "9691eaaadf4274c1"),
  ("x/evm/statedb/statedb.go:StateDB.Logs", "67afc8bb8deb2cd6")]

/-- 24 declarations -/
theorem fact_C19_surface_fingerprints : Generated.surface_C19 = expected_C19 := rfl

end Nibiru.Surface
