/-
  SurfC11 — GENERATED by bin/pin-surface (a developer tool) on the tree the models were written against; committed.
  The fingerprints of the functions property C11's model was written from (lib/surface.json) as they were then; the
  extractor recomputes them from /repo on every run (Generated.surface_C11).  A difference means that a modelled function
  changed structurally: the hand-written model is then no longer known to describe it, the obligation breaks and the check
  searches for a failing input (DESIGN §3, T1-S).
-/
import Generated.Facts

namespace Nibiru.Surface

def expected_C11 : List (String × String) := [
  ("app/ante/fixed_gas.go:AnteDecoratorEnsureSinglePostPriceMessage.AnteHandle", "aa6ab38b4b11df51"),
  ("app/ante/fixed_gas.go:OracleMessageGas", "30e79fbb31636bbc"),
  ("x/oracle/abci.go:EndBlocker", "27431f5725b90f43"),
  ("x/oracle/keeper/ballot.go:Keeper.clearVotesAndPrevotes", "71bb1281cb8a5841"),
  ("x/oracle/keeper/keeper.go:Keeper.ValidateFeeder", "494db7667299a8a1"),
  ("x/oracle/keeper/msg_server.go:msgServer.AggregateExchangeRatePrevote", "34fcbdd56e9068eb"),
  ("x/oracle/keeper/msg_server.go:msgServer.AggregateExchangeRateVote", "c77b3c1622162b6a"),
  ("x/oracle/keeper/msg_server.go:msgServer.DelegateFeedConsent", "8d7664d1535a389a"),
  ("x/oracle/types/hash.go:AggregateVoteHash.Bytes", "f8feb63fd97d7706"),
  ("x/oracle/types/hash.go:AggregateVoteHash.Empty", "f4ca1e958e8f9a57"),
  ("x/oracle/types/hash.go:AggregateVoteHash.Equal", "adca7d3f4418b0d3"),
  ("x/oracle/types/hash.go:AggregateVoteHash.Format", "f10911c37ee1734e"),
  ("x/oracle/types/hash.go:AggregateVoteHash.Marshal", "e894bb57c7478c7d"),
  ("x/oracle/types/hash.go:AggregateVoteHash.MarshalJSON", "a8df13971b47f23e"),
  ("x/oracle/types/hash.go:AggregateVoteHash.MarshalYAML", "add15df990a96aeb"),
  ("x/oracle/types/hash.go:AggregateVoteHash.Size", "7a1335437e8dd303"),
  ("x/oracle/types/hash.go:AggregateVoteHash.String", "e21756b1acaded4d"),
  ("x/oracle/types/hash.go:AggregateVoteHash.Unmarshal", "ac72cc8afd94e2d3"),
  ("x/oracle/types/hash.go:AggregateVoteHash.UnmarshalJSON", "d1da79ed9be4a4b4"),
  ("x/oracle/types/hash.go:AggregateVoteHashFromHexString", "86dfd2d9bf1a4bf4"),
  ("x/oracle/types/hash.go:GetAggregateVoteHash", "9d31f50560de1790"),
  ("x/oracle/types/vote.go:ExchangeRateTuple.ToString", "5d701c2adc027046"),
  ("x/oracle/types/vote.go:ExchangeRateTuplePairRateSeparator", "63b1516643d536e3"),
  ("x/oracle/types/vote.go:ExchangeRateTupleStringPrefix", "ee1662c6c24ab839"),
  ("x/oracle/types/vote.go:ExchangeRateTupleStringSuffix", "f79fab41d12e372e"),
  ("x/oracle/types/vote.go:ExchangeRateTuples.ToMap", "e20a29f32a9a0d97"),
  ("x/oracle/types/vote.go:ExchangeRateTuples.ToString", "f35bed5ceec77b46"),
  ("x/oracle/types/vote.go:ExchangeRateTuplesSeparator", "9551593011a66ed7"),
  ("x/oracle/types/vote.go:NewAggregateExchangeRatePrevote", "d94a53de9aec5b53"),
  ("x/oracle/types/vote.go:NewAggregateExchangeRateVote", "0fe6a71dd9492bbd"),
  ("x/oracle/types/vote.go:NewExchangeRateTuple", "4274bd54a6ba4946"),
  ("x/oracle/types/vote.go:NewExchangeRateTupleFromString", "a280949dab98ed29"),
  ("x/oracle/types/vote.go:NewExchangeRateTuplesFromString", "cc87c0fe0c9af863"),
  ("x/oracle/types/vote.go:ParseExchangeRateTuples", "43c533147ec5c183")]

/-- 34 declarations -/
theorem fact_C11_surface_fingerprints : Generated.surface_C11 = expected_C11 := rfl

end Nibiru.Surface
