/-
  The one induction over the message tree (`Preserved`, `run_preserves`) that C02 and C17 instantiate, and its instances for
  the two counters of EthereumTx handler runs.
-/
import NibiruModel.MsgTree
namespace Nibiru.MsgTree

/-- `E a` = the address `a` is "Ethereum-only": it is the address recovered from an Ethereum signature; it cannot sign a Cosmos
    tx (eth_secp256k1 keys are refused), is not a contract and not a module account. -/
abbrev EthOnly := Nat → Bool

/-- no grant has an Ethereum-only granter (a MsgGrant needs the granter's Cosmos signature or an authorisation chain ending in one) -/
def Inv (E : EthOnly) (s : State) : Prop := ∀ g ∈ s.grants, E g.1 = false

mutual
/-- well-formedness of a tree w.r.t. `E`: the sender of every MsgEthereumTx is Ethereum-only; contracts and the gov account are not -/
def WF (E : EthOnly) : Msg → Prop
  | .eth s => E s = true
  | .exec _ inner => WFs E inner
  | .proposal _ inner => WFs E inner
  | .wasm _ c emitted => E c = false ∧ WFs E emitted
  | _ => True
def WFs (E : EthOnly) : List Msg → Prop
  | [] => True
  | m :: ms => WF E m ∧ WFs E ms
end

theorem hasGrant_inv (E : EthOnly) (s : State) (g e : Nat) (k : Kind) (hinv : Inv E s) (h : hasGrant s g e k = true) : E g = false := by
  unfold hasGrant at h
  obtain ⟨x, hx, hc⟩ := List.any_eq_true.mp h
  simp only [Bool.and_eq_true, decide_eq_true_eq] at hc
  exact hc.1.1 ▸ hinv x hx

theorem WFs_iff (E : EthOnly) (ms : List Msg) : WFs E ms ↔ ∀ m ∈ ms, WF E m := by
  induction ms with
  | nil => simp [WFs]
  | cons m ms ih => simp [WFs, ih]

/-- `Q` is kept by the message router on the messages that satisfy `A`: the three state changes a message can make by itself keep
    it, and `A` passes from a MsgExec, resp. a contract call, to each inner message that `dispatch`, resp. `wasmDispatch`, lets
    through. -/
structure Preserved (Q : State → Prop) (A : Msg → Prop) : Prop where
  eth : ∀ s a, Q s → A (.eth a) → Q { s with ethRuns := s.ethRuns + 1 }
  comm : ∀ s o r, Q s → A (.comm o r) → Q { s with commission := AList.set s.commission o r }
  grant : ∀ s g e k, Q s → A (.grant g e k) → Q { s with grants := (g, e, k) :: s.grants }
  exec : ∀ s g inner m, Q s → A (.exec g inner) → m ∈ inner → m.signer = g ∨ hasGrant s m.signer g m.kind = true → A m
  wasm : ∀ x c em m, A (.wasm x c em) → m ∈ em → m.signer = c → A m

section
variable {Q : State → Prop} {A : Msg → Prop}

mutual
theorem run_preserves (P : Preserved Q A) (m : Msg) (s s' : State) (hq : Q s) (ha : A m) (h : run s m = some s') : Q s' := by
  cases m with
  | eth a => cases h; exact P.eth s a hq ha
  | comm o r => cases h; exact P.comm s o r hq ha
  | send a => cases h; exact hq
  | grant g e k =>
    simp only [run, Option.ite_none_left_eq_some, Option.some.injEq] at h
    exact h.2 ▸ P.grant s g e k hq ha
  | proposal p inner =>
    simp only [run, Option.ite_none_right_eq_some, Option.some.injEq] at h
    exact h.2 ▸ hq
  | exec g inner => exact dispatch_preserves P inner g s s' hq (fun t ht x hx => P.exec t g inner x ht ha hx) h
  | wasm a c em => exact wasm_preserves P em c s s' hq (fun x hx => P.wasm a c em x ha hx) h
theorem dispatch_preserves (P : Preserved Q A) (ms : List Msg) (g : Nat) (s s' : State) (hq : Q s)
    (ha : ∀ t, Q t → ∀ m ∈ ms, m.signer = g ∨ hasGrant t m.signer g m.kind = true → A m)
    (h : dispatch s g ms = some s') : Q s' := by
  cases ms with
  | nil => cases h; exact hq
  | cons m rest =>
    simp only [dispatch, Option.ite_none_right_eq_some, Bool.or_eq_true, decide_eq_true_eq] at h
    cases hr : run s m with
    | none => rw [hr] at h; cases h.2
    | some s1 =>
      rw [hr] at h
      exact dispatch_preserves P rest g s1 s' (run_preserves P m s s1 hq (ha s hq m List.mem_cons_self h.1) hr)
        (fun t ht x hx => ha t ht x (List.mem_cons_of_mem _ hx)) h.2
theorem wasm_preserves (P : Preserved Q A) (ms : List Msg) (c : Nat) (s s' : State) (hq : Q s)
    (ha : ∀ m ∈ ms, m.signer = c → A m) (h : wasmDispatch s c ms = some s') : Q s' := by
  cases ms with
  | nil => cases h; exact hq
  | cons m rest =>
    simp only [wasmDispatch, Option.ite_none_right_eq_some, Bool.and_eq_true, decide_eq_true_eq] at h
    cases hr : run s m with
    | none => rw [hr] at h; cases h.2
    | some s1 =>
      rw [hr] at h
      exact wasm_preserves P rest c s1 s' (run_preserves P m s s1 hq (ha m List.mem_cons_self h.1.1) hr)
        (fun x hx => ha x (List.mem_cons_of_mem _ hx)) h.2
end

theorem runAll_preserves (P : Preserved Q A) (ms : List Msg) (s s' : State) (hq : Q s) (ha : ∀ m ∈ ms, A m)
    (h : runAll s ms = some s') : Q s' := by
  induction ms generalizing s with
  | nil => cases h; exact hq
  | cons m rest ih =>
    unfold runAll at h
    cases hr : run s m with
    | none => rw [hr] at h; cases h
    | some s1 =>
      rw [hr] at h
      exact ih s1 (run_preserves P m s s1 hq (ha m List.mem_cons_self) hr) (fun x hx => ha x (List.mem_cons_of_mem _ hx)) h

end

/-- a message whose signer is not Ethereum-only never reaches the EthereumTx handler, and keeps the grant invariant -/
theorem noEth_preserved (E : EthOnly) (k : Nat) :
    Preserved (fun s => s.ethRuns = k ∧ Inv E s) (fun m => E m.signer = false ∧ WF E m) where
  eth := fun _ _ _ ha => absurd (ha.1.symm.trans ha.2) nofun
  comm := fun _ _ _ hq _ => hq
  grant := fun _ _ _ _ hq ha => ⟨hq.1, fun x hx => (List.mem_cons.mp hx).elim (· ▸ ha.1) (hq.2 x)⟩
  exec := fun s _ inner m hq ha hm hauth =>
    ⟨hauth.elim (· ▸ ha.1) (hasGrant_inv E s _ _ _ hq.2), (WFs_iff E inner).mp ha.2 m hm⟩
  wasm := fun _ _ em m ha hm hs => ⟨hs ▸ ha.2.1, (WFs_iff E em).mp ha.2.2 m hm⟩

theorem dispatch_noEth (E : EthOnly) (ms : List Msg) (s s' : State) (grantee : Nat) (hinv : Inv E s) (hg : E grantee = false)
    (hwf : WFs E ms) (h : dispatch s grantee ms = some s') : s'.ethRuns = s.ethRuns ∧ Inv E s' :=
  run_preserves (noEth_preserved E s.ethRuns) (.exec grantee ms) s s' ⟨rfl, hinv⟩ ⟨hg, hwf⟩ h

theorem wasm_noEth (E : EthOnly) (ms : List Msg) (s s' : State) (c : Nat) (hinv : Inv E s) (hc : E c = false)
    (hwf : WFs E ms) (h : wasmDispatch s c ms = some s') : s'.ethRuns = s.ethRuns ∧ Inv E s' :=
  run_preserves (noEth_preserved E s.ethRuns) (.wasm c c ms) s s' ⟨rfl, hinv⟩ ⟨hc, hc, hwf⟩ h

/-- message execution never touches the count of handler runs behind the EVM ante chain -/
theorem legit_preserved (k : Nat) : Preserved (fun s => s.ethLegit = k) (fun _ => True) where
  eth := fun _ _ hq _ => hq
  comm := fun _ _ _ hq _ => hq
  grant := fun _ _ _ _ hq _ => hq
  exec := fun _ _ _ _ _ _ _ _ => trivial
  wasm := fun _ _ _ _ _ _ _ => trivial

theorem legit_dispatch (ms : List Msg) (a b : State) (g : Nat) (h : dispatch a g ms = some b) : b.ethLegit = a.ethLegit :=
  run_preserves (legit_preserved a.ethLegit) (.exec g ms) a b rfl trivial h

theorem legit_wasm (ms : List Msg) (a b : State) (c : Nat) (h : wasmDispatch a c ms = some b) : b.ethLegit = a.ethLegit :=
  run_preserves (legit_preserved a.ethLegit) (.wasm c c ms) a b rfl trivial h

/-- the two ways a tx is accepted: through the EVM ante chain, or through the non-EVM chain's guards and the message router -/
theorem deliver_some (g : CommGuard) (s s' : State) (tx : Tx) (h : deliver g s tx = some s') :
    tx.evmExt = true ∧ tx.msgs.all isEth = true ∧ s' = { s with ethLegit := s.ethLegit + tx.msgs.length } ∨
    tx.evmExt = false ∧ tx.msgs.all guardEth = true ∧ commGuardOk g tx.msgs = true ∧ runAll s tx.msgs = some s' := by
  unfold deliver at h
  cases hext : tx.evmExt with
  | true =>
    simp only [hext, if_true, Option.ite_none_right_eq_some, Option.some.injEq] at h
    exact .inl ⟨rfl, h.1, h.2.symm⟩
  | false =>
    simp only [hext, Bool.false_eq_true, if_false, Option.ite_none_left_eq_some, Bool.not_not_eq] at h
    exact .inr ⟨rfl, h.2.1, h.2.2.1, h.2.2.2⟩

end Nibiru.MsgTree
