/-
  C14 — Epochs tick once per elapsed duration with hooks in order.
  Theorems about NibiruModel.Epochs (x/epochs/abci.go BeginBlocker).  Core-only proofs.
-/
import NibiruModel.Epochs
namespace Nibiru.Epochs

/-- Well-formedness of a stored epoch info: before counting starts the epoch number is 0
    (what `DefaultGenesis` and every sensible genesis provide; preserved by every tick). -/
def WF (e : EpochInfo) : Prop := e.started = false → e.current = 0

/-- The advance condition, in the words of the property. -/
theorem C14_advance_iff (t : Int) (e : EpochInfo) :
    advances e t = true ↔
      (e.startTime ≤ t ∧ (e.started = false ∨ e.curStart + e.duration ≤ t)) := by
  unfold advances shouldStart
  cases hs : e.started <;> simp <;> omega

/-- No advance: nothing changes and no hook runs. -/
theorem C14_no_advance (t h : Int) (e : EpochInfo) (hna : advances e t = false) :
    tick t h e = (e, []) := by
  simp [tick, hna]

/-- Advance: the number goes up by exactly one, start height/time are those of the block, and the hooks are
    `AfterEpochEnd n` (none on the very first tick) followed by `BeforeEpochStart (n+1)`. -/
theorem C14_advance (t h : Int) (e : EpochInfo) (hwf : WF e) (ha : advances e t = true) :
    (tick t h e).1.current = e.current + 1 ∧
    (tick t h e).1.curStart = t ∧ (tick t h e).1.curHeight = h ∧ (tick t h e).1.started = true ∧
    (tick t h e).1.id = e.id ∧ (tick t h e).1.duration = e.duration ∧ (tick t h e).1.startTime = e.startTime ∧
    (tick t h e).2 =
      (if e.started then [HookCall.afterEnd e.id e.current, .beforeStart e.id (e.current + 1)]
       else [.beforeStart e.id 1]) := by
  cases hs : e.started
  · have := hwf hs
    simp [tick, ha, hs, this]
  · simp [tick, ha, hs]

/-- exactly one, iff -/
theorem C14_advances_by_one_iff (t h : Int) (e : EpochInfo) (hwf : WF e) :
    (tick t h e).1.current = e.current + 1 ↔ advances e t = true := by
  constructor
  · intro hc
    cases ha : advances e t
    · rw [C14_no_advance t h e ha] at hc; simp at hc
    · rfl
  · intro ha; exact (C14_advance t h e hwf ha).1

theorem C14_at_most_one_advance_per_block (t h : Int) (e : EpochInfo) (hwf : WF e) :
    (tick t h e).1.current = e.current ∨ (tick t h e).1.current = e.current + 1 := by
  cases ha : advances e t
  · left; rw [C14_no_advance t h e ha]
  · right; exact (C14_advance t h e hwf ha).1

theorem tick_WF (t h : Int) (e : EpochInfo) (hwf : WF e) : WF (tick t h e).1 := by
  cases ha : advances e t
  · rw [C14_no_advance t h e ha]; exact hwf
  · intro hs; have := (C14_advance t h e hwf ha).2.2.2.1; rw [this] at hs; cases hs

theorem tick_id (t h : Int) (e : EpochInfo) : (tick t h e).1.id = e.id := by
  unfold tick; split
  · rfl
  · split <;> rfl

/-- `BeginBlocker` visits every stored epoch info exactly once, in key order: the new store is the pointwise tick
    and the hook log is the concatenation of the per-identifier logs. -/
theorem beginBlock_eq_map (t h : Int) (s : State) :
    beginBlock t h s = (s.map (fun e => (tick t h e).1), (s.map (fun e => (tick t h e).2)).flatten) := by
  induction s with
  | nil => rfl
  | cons e es ih => simp [beginBlock, ih]

/-! ### histories of one identifier -/

/-- run a history of blocks `(time, height)` on one epoch info, collecting the hook log -/
def run : List (Int × Int) → EpochInfo → EpochInfo × List HookCall
  | [], e => (e, [])
  | (t, h) :: bs, e =>
    let (e1, c1) := tick t h e
    let (e2, c2) := run bs e1
    (e2, c1 ++ c2)

/-- the hook calls of `k` consecutive advances of a started epoch whose number is `c` -/
def advSeq (id : String) (c : Nat) : Nat → List HookCall
  | 0 => []
  | k + 1 => [.afterEnd id c, .beforeStart id (c + 1)] ++ advSeq id (c + 1) k

/-- the complete expected log of an identifier that reached epoch `n` from a fresh (not started) state:
    `B 1, A 1, B 2, A 2, …, B n` -/
def fullLog (id : String) : Nat → List HookCall
  | 0 => []
  | n + 1 => .beforeStart id 1 :: advSeq id 1 n

/-- what every tick keeps, every history keeps -/
theorem run_preserves (P : EpochInfo → Prop) (step : ∀ t h e, P e → P (tick t h e).1) (bs : List (Int × Int))
    (e : EpochInfo) (h0 : P e) : P (run bs e).1 := by
  induction bs generalizing e with
  | nil => exact h0
  | cons b bs ih => exact ih _ (step b.1 b.2 e h0)

theorem run_id (bs : List (Int × Int)) (e : EpochInfo) : (run bs e).1.id = e.id :=
  run_preserves (·.id = e.id) (fun t h x hx => (tick_id t h x).trans hx) bs e rfl

theorem run_WF (bs : List (Int × Int)) (e : EpochInfo) (hwf : WF e) : WF (run bs e).1 :=
  run_preserves WF tick_WF bs e hwf

theorem started_stays (bs : List (Int × Int)) (e : EpochInfo) (hs : e.started = true) :
    (run bs e).1.started = true := by
  refine run_preserves (·.started = true) (fun t h x hx => ?_) bs e hs
  cases ha : advances x t
  · rw [C14_no_advance t h x ha]; exact hx
  · exact (C14_advance t h x (fun hns => by rw [hx] at hns; cases hns) ha).2.2.2.1

theorem advSeq_append (id : String) (c k j : Nat) :
    advSeq id c k ++ advSeq id (c + k) j = advSeq id c (k + j) := by
  induction k generalizing c with
  | zero => simp [advSeq]
  | succ k ih =>
    have : c + (k + 1) = (c + 1) + k := by omega
    rw [this, show k + 1 + j = (k + j) + 1 by omega]
    simp [advSeq, ih]

/-- Hook trace over any history, from any well-formed state, `k` being the number of epochs passed: for a started epoch
    exactly the `A n, B n+1` pairs, in order, each exactly once; for a fresh one the complete log `B 1, A 1, …, B k`. -/
theorem hook_trace (bs : List (Int × Int)) (e : EpochInfo) (hwf : WF e) :
    ∃ k, (run bs e).1.current = e.current + k ∧
      (run bs e).2 = if e.started then advSeq e.id e.current k else fullLog e.id k := by
  induction bs generalizing e with
  | nil => exact ⟨0, rfl, by cases e.started <;> rfl⟩
  | cons b bs ih =>
    obtain ⟨t, h⟩ := b
    simp only [run]
    cases ha : advances e t
    · rw [C14_no_advance t h e ha]; simpa using ih e hwf
    · obtain ⟨hc, -, -, hst, hid, -, -, hlog⟩ := C14_advance t h e hwf ha
      obtain ⟨k, hk, hl⟩ := ih _ (tick_WF t h e hwf)
      refine ⟨k + 1, by omega, ?_⟩
      rw [hl, hst, if_pos rfl, hlog, hid, hc]
      -- the first advance emits `B 1` alone; a later one `A n, B n+1`
      cases hs : e.started
      · rw [hwf hs]; rfl
      · rfl

theorem C14_epoch_monotone (bs : List (Int × Int)) (e : EpochInfo) (hwf : WF e) :
    e.current ≤ (run bs e).1.current := by
  obtain ⟨k, hk, -⟩ := hook_trace bs e hwf
  omega

/-- C14 hook trace, from a fresh state: for every history of block times, the whole hook log of the identifier is
    `B 1, A 1, B 2, …, A (n-1), B n` where `n` is the epoch number reached — `AfterEpochEnd k` exactly once for each
    finished epoch, none on the very first tick, always before `BeforeEpochStart (k+1)`. -/
theorem C14_hook_trace (bs : List (Int × Int)) (e : EpochInfo) (hns : e.started = false) (hz : e.current = 0) :
    (run bs e).2 = fullLog e.id (run bs e).1.current := by
  obtain ⟨k, hk, hl⟩ := hook_trace bs e (fun _ => hz)
  rw [hl, hk, hz, hns, Nat.zero_add]; rfl

/-- the recorded start height/time are those of the last advancing block -/
theorem C14_start_recorded (t h : Int) (e : EpochInfo) (hwf : WF e) (ha : advances e t = true) :
    (tick t h e).1.curStart = t ∧ (tick t h e).1.curHeight = h :=
  ⟨(C14_advance t h e hwf ha).2.1, (C14_advance t h e hwf ha).2.2.1⟩

/-- a multi-duration gap still gives one advance per block (the next block advances again) -/
example : (run [(100, 2), (100, 3), (1000, 4), (1000, 5), (1000, 6)]
    { id := "d", startTime := 0, duration := 10, current := 0, curStart := 0, started := false, curHeight := 0 }).1.current = 2 := by
  decide

/-- non-vacuity: a fresh epoch meets the hypotheses and produces a non-trivial log -/
example : (run [(100, 2), (105, 3), (110, 4), (500, 5), (500, 6)]
    { id := "d", startTime := 50, duration := 10, current := 0, curStart := 0, started := false, curHeight := 0 }).2
    = fullLog "d" 3 := by decide

/-! ### AddEpochInfo mid-history -/

theorem mem_insert (s : State) (e x : EpochInfo) (hx : x ∈ insert s e) : x = e ∨ x ∈ s := by
  induction s with
  | nil => exact .inl (List.mem_singleton.mp hx)
  | cons a as ih =>
    unfold insert at hx
    split at hx
    · exact List.mem_cons.mp hx
    · split at hx
      · exact (List.mem_cons.mp hx).imp_right (List.mem_cons_of_mem _)
      · rcases List.mem_cons.mp hx with rfl | h
        · exact .inr List.mem_cons_self
        · exact (ih h).imp_right (List.mem_cons_of_mem _)

/-- `AddEpochInfo` either refuses and leaves the store alone, or inserts the info with its start time and height set -/
theorem addEpochInfo_fst (s : State) (t h : Int) (e : EpochInfo) :
    (addEpochInfo s t h e).1 = s ∨
    (addEpochInfo s t h e).1 = insert s { e with startTime := if e.startTime = 0 then t else e.startTime, curHeight := h } := by
  unfold addEpochInfo
  -- (`split` on this chain of conditionals is an order of magnitude slower)
  by_cases h1 : e.id = ""; · exact .inl (by rw [if_pos h1])
  by_cases h2 : e.duration = 0; · exact .inl (by rw [if_neg h1, if_pos h2])
  by_cases h3 : e.curHeight < 0; · exact .inl (by rw [if_neg h1, if_neg h2, if_pos h3])
  by_cases h4 : exists? s e.id = true; · exact .inl (by rw [if_neg h1, if_neg h2, if_neg h3, if_pos h4])
  exact .inr (by rw [if_neg h1, if_neg h2, if_neg h3, if_neg h4])

theorem C14_add_fresh_is_WF (s : State) (t h : Int) (e : EpochInfo) (hwf : WF e) :
    ∀ x ∈ (addEpochInfo s t h e).1, (∀ y ∈ s, WF y) → WF x := by
  intro x hx hall
  rcases addEpochInfo_fst s t h e with h' | h' <;> rw [h'] at hx
  · exact hall x hx
  · rcases mem_insert _ _ _ hx with rfl | hs
    · exact hwf
    · exact hall x hs

end Nibiru.Epochs
