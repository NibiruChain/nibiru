/-
  SDBKeep — the history theorem of SDBTx without its "no account ends a transaction empty" condition.

  go-ethereum's `StateDB.Finalise(deleteEmptyObjects bool)` has two modes; with the EIP-161 state clearing switched off
  (`deleteEmptyObjects = false`) an account that ends a transaction with nonce 0, balance 0 and no code stays in the state as an
  empty account instead of being deleted.  That is what Nibiru's `Commit` always does (it only removes self-destructed accounts).
  `GethSpec.commitKeep` (SDBSpecCommit) is `GethSpec.commit` with exactly that switch off.  Against it Nibiru's write-back agrees at
  every address with NO condition on empty accounts and no condition on their storage
  (`C03_transaction_commit_matches_keep_reference_partial`, SDBTx), and here the agreement is carried over any history of
  transactions: the two persisted states stay equal on the nose (`StoreEq`).  The difference between the two modes of go-ethereum
  itself (an empty account versus no account) is then a statement about go-ethereum alone; for a single transaction it is the
  `AcctRel` / `EndedEmpty` clause of `C03_transaction_commit_matches_reference_partial`.
-/
import NibiruProofs.SDBTx

namespace Nibiru.SDB
open Nibiru

def persistGK (b : GethSpec.Base) (body : List Tree) : GethSpec.Base := (GethSpec.commitKeep (runGTL { base := b } body)).base

/-- the side conditions that remain: `CreateAccount` only where `evm.create` may call it; the balances the reference persists are
    whole unibi (otherwise Nibiru's bank, which truncates, starts the next transaction with less) -/
structure TxOKK (st : Store) (b : GethSpec.Base) (body : List Tree) : Prop where
  create : Tree.OKL2 st body
  whole : ∀ a y, AList.find? (persistGK b body).accts a = some y → ∃ u : Int, y.2.2 = u * weiPerUnibi

def runTxsGK (b : GethSpec.Base) : List (List Tree) → GethSpec.Base
  | [] => b
  | body :: rest => runTxsGK (persistGK b body) rest

def AllOKK (st : Store) (b : GethSpec.Base) : List (List Tree) → Prop
  | [] => True
  | body :: rest => TxOKK st b body ∧ AllOKK (persistN st body) (persistGK b body) rest

/-- **C03 (partial) — any history of transactions without precompile calls, accounts that end empty included.** Starting from equal
    persisted data, after ANY sequence of transactions Nibiru's store and the state of go-ethereum run with `deleteEmptyObjects =
    false` hold the same accounts — nonce, code hash, balance — and the same value in every storage slot.  The only side conditions
    left per transaction are `CreateAccount` where `evm.create` may call it and whole-unibi balances at write-back. -/
theorem C03_history_commits_match_keep_reference_partial (txs : List (List Tree)) (st : Store) (b : GethSpec.Base)
    (h : StoreEq st b) (hok : AllOKK st b txs) : StoreEq (runTxsN st txs) (runTxsGK b txs) := by
  induction txs generalizing st b with
  | nil => exact h
  | cons body rest ih =>
    exact ih _ _ (storeEq_of_agree st b h body hok.1.create (persistGK b body) (fun _ => rfl) hok.1.whole) hok.2

/-- a transaction on which the two modes of go-ethereum do not differ leaves the same base in both -/
theorem persistGK_eq_persistG (b : GethSpec.Base) (body : List Tree)
    (h : ∀ a, ¬ EndedEmpty (runGTL { base := b } body) a) : persistGK b body = persistG b body :=
  List.foldl_rel (r := Eq) rfl fun a _ B _ e =>
    e ▸ GethSpec.commitStepK_eq_commitStep _ B a fun o ho hs he => h a ⟨o, ho, hs, he.1, he.2.1, he.2.2⟩

/-! ### non-vacuity: a history in which an account ends a transaction empty -/

/-- account 4 receives 2 unibi … -/
def keepTx1 : List Tree := [ .w (.addBalance 4 2000000000000), .w (.setState 1 0 5) ]
/-- … and gives all of it to account 1 in the next transaction: it ends that transaction with nonce 0, balance 0 and no code … -/
def keepTx2 : List Tree := [ .w (.addBalance 4 (-2000000000000)), .w (.addBalance 1 2000000000000) ]
/-- … and is used again in a third -/
def keepTx3 : List Tree := [ .r (.acc 4), .w (.addBalance 4 1000000000000), .frame false [ .w (.setNonce 4 3) ] ]

example : EndedEmpty (runGTL { base := persistGK demoBase keepTx1 } keepTx2) 4 := by
  refine ⟨{ balance := 0 }, by decide, rfl, rfl, rfl, rfl⟩

/-- the bodies create no account; the balances the reference persists after each (account 1: 5, 7, 7 unibi; account 4: 2, 0, 1)
    are evaluated by the kernel -/
theorem keep_allok : AllOKK demoStore demoBase [keepTx1, keepTx2, keepTx3] :=
  ⟨⟨by simp [keepTx1, Tree.OKL2, Tree.OK2], whole_of_accts _ (by decide)⟩,
   ⟨by simp [keepTx2, Tree.OKL2, Tree.OK2], whole_of_accts _ (by decide)⟩,
   ⟨by simp [keepTx3, Tree.OKL2, Tree.OK2], whole_of_accts _ (by decide)⟩, True.intro⟩

/-- three transactions, the second of which leaves account 4 empty: the stores agree after all of them -/
example : StoreEq (runTxsN demoStore [keepTx1, keepTx2, keepTx3]) (runTxsGK demoBase [keepTx1, keepTx2, keepTx3]) :=
  C03_history_commits_match_keep_reference_partial _ _ _ ⟨demoStore_ok, demo_acc, fun _ _ => rfl⟩ keep_allok

end Nibiru.SDB
