/-
  SurfC05 — GENERATED by bin/pin-surface (a developer tool) on the tree the models were written against; committed.
  The fingerprints of the functions property C05's model was written from (lib/surface.json) as they were then; the
  extractor recomputes them from /repo on every run (Generated.surface_C05).  A difference means that a modelled function
  changed structurally: the hand-written model is then no longer known to describe it, the obligation breaks and the check
  searches for a failing input (DESIGN §3, T1-S).
-/
import Generated.Facts

namespace Nibiru.Surface

def expected_C05 : List (String × String) := [
  ("app/ante/gas_wanted.go:AnteDecoratorGasWanted.AnteHandle", "a7a54a923be9f725"),
  ("app/evmante/evmante_can_transfer.go:CanTransferDecorator.AnteHandle", "c91f4e62b30ff3f1"),
  ("app/evmante/evmante_gas_consume.go:AnteDecEthGasConsume.AnteHandle", "a80c3c94f1fb1e8c"),
  ("app/evmante/evmante_gas_consume.go:AnteDecEthGasConsume.deductFee", "34719b79fa5660a0"),
  ("app/evmante/evmante_verify_eth_acc.go:AnteDecVerifyEthAcc.AnteHandle", "8b18cfc4de959c88"),
  ("app/evmante/evmante_verify_eth_acc.go:NewAnteDecVerifyEthAcc", "6027f86fca1bc637"),
  ("x/evm/keeper/bank_extension.go:Keeper.NewStateDB", "a116621a4fbcd971"),
  ("x/evm/keeper/bank_extension.go:NibiruBankKeeper.BurnCoins", "94ad2a0ac4ee19fe"),
  ("x/evm/keeper/bank_extension.go:NibiruBankKeeper.DelegateCoins", "925b20b9407936ae"),
  ("x/evm/keeper/bank_extension.go:NibiruBankKeeper.DelegateCoinsFromAccountToModule", "e953510c32f22cd5"),
  ("x/evm/keeper/bank_extension.go:NibiruBankKeeper.ForceGasInvariant", "439244c89dd5eb8d"),
  ("x/evm/keeper/bank_extension.go:NibiruBankKeeper.InputOutputCoins", "7a19517b333291ca"),
  ("x/evm/keeper/bank_extension.go:NibiruBankKeeper.MintCoins", "6ff04b3715f4ca63"),
  ("x/evm/keeper/bank_extension.go:NibiruBankKeeper.SendCoins", "7ebb556bc0e6e5ec"),
  ("x/evm/keeper/bank_extension.go:NibiruBankKeeper.SendCoinsFromAccountToModule", "b2b858f899bc0e68"),
  ("x/evm/keeper/bank_extension.go:NibiruBankKeeper.SendCoinsFromModuleToAccount", "dc1586e913fc3c9f"),
  ("x/evm/keeper/bank_extension.go:NibiruBankKeeper.SendCoinsFromModuleToModule", "f40f796a6d68286c"),
  ("x/evm/keeper/bank_extension.go:NibiruBankKeeper.SyncStateDBWithAccount", "ec6c5c859cf7c34b"),
  ("x/evm/keeper/bank_extension.go:NibiruBankKeeper.UndelegateCoins", "b7e54dd4eaf9740e"),
  ("x/evm/keeper/bank_extension.go:NibiruBankKeeper.UndelegateCoinsFromModuleToAccount", "937d529ed7e2bb8b"),
  ("x/evm/keeper/bank_extension.go:findEtherBalanceChangeFromCoins", "3a24dedc433afcde"),
  ("x/evm/keeper/gas_fees.go:CheckSenderBalance", "09ea757c8fd334f8"),
  ("x/evm/keeper/gas_fees.go:Keeper.DeductTxCostsFromUserBalance", "59dc65e62910cc76"),
  ("x/evm/keeper/gas_fees.go:Keeper.GetEthIntrinsicGas", "5817acbd7f8c8619"),
  ("x/evm/keeper/gas_fees.go:Keeper.RefundGas", "5057f4d9fabbd40c"),
  ("x/evm/keeper/gas_fees.go:VerifyFee", "df89ebbad70bc330"),
  ("x/evm/keeper/gas_fees.go:gasToRefund", "a90991e9b4055041"),
  ("x/evm/keeper/msg_server.go:Keeper.ApplyEvmMsg", "7ca606433c5e3fc4"),
  ("x/evm/keeper/msg_server.go:Keeper.EthereumTx", "ff1cfaf67307fa3e"),
  ("x/evm/keeper/msg_server.go:ParseWeiAsMultipleOfMicronibi", "9932f647a71f5d43"),
  ("x/evm/keeper/statedb.go:Keeper.DeleteAccount", "55444b6d1b75c166"),
  ("x/evm/keeper/statedb.go:Keeper.ForEachStorage", "32470b2c4c9d3677"),
  ("x/evm/keeper/statedb.go:Keeper.GetAccount", "b6bf1ae760d5acd3"),
  ("x/evm/keeper/statedb.go:Keeper.GetCode", "163831ba038a22c2"),
  ("x/evm/keeper/statedb.go:Keeper.SetAccBalance", "65c00e6bf4f06eb5"),
  ("x/evm/keeper/statedb.go:Keeper.SetAccount", "ad98931ec0106cd3"),
  ("x/evm/keeper/statedb.go:Keeper.SetCode", "d3263f629b7c5002"),
  ("x/evm/keeper/statedb.go:Keeper.SetState", "651fba93de3074a1"),
  ("x/evm/keeper/statedb.go:Keeper.getAccountWithoutBalance", "c82c12b12a4b8d9a"),
  ("x/evm/precompile/precompile.go:OnRunStart", "3938ac3cfd11eae7"),
  ("x/evm/statedb/journal.go:PrecompileCalled.Revert", "59987db5ca4740f2"),
  ("x/evm/statedb/state_object.go:AccountWei.ToNative", "12414a7fc733e182"),
  ("x/evm/statedb/statedb.go:StateDB.CacheCtxForPrecompile", "34a11d12b4a8730d"),
  ("x/evm/statedb/statedb.go:StateDB.Commit", "a8e7d08197cba9ef"),
  ("x/evm/statedb/statedb.go:StateDB.CommitCacheCtx", "f738a98987d3471b"),
  ("x/evm/statedb/statedb.go:StateDB.SavePrecompileCalledJournalChange", "2e9762e5899ca87e"),
  ("x/evm/statedb/statedb.go:StateDB.Suicide", "cb4f9109bc697ba2"),
  ("x/evm/statedb/statedb.go:StateDB.commitCtx", "745cd81657edc9f7"),
  ("x/evm/tx_data_access_list.go:AccessList.ToEthAccessList", "7967deb7a3cf4ddd"),
  ("x/evm/tx_data_access_list.go:AccessListTx.AsEthereumData", "630b90aebccba3e2"),
  ("x/evm/tx_data_access_list.go:AccessListTx.Copy", "1b18db76245b7944"),
  ("x/evm/tx_data_access_list.go:AccessListTx.Cost", "83923be7f9935833"),
  ("x/evm/tx_data_access_list.go:AccessListTx.EffectiveCostWei", "c327badce729c11f"),
  ("x/evm/tx_data_access_list.go:AccessListTx.EffectiveFeeWei", "f6ece3b890964d3d"),
  ("x/evm/tx_data_access_list.go:AccessListTx.EffectiveGasFeeCapWei", "f6025cabefd06850"),
  ("x/evm/tx_data_access_list.go:AccessListTx.EffectiveGasPriceWeiPerGas", "c36ed2c717e2dd0b"),
  ("x/evm/tx_data_access_list.go:AccessListTx.Fee", "0833bc42cdefb70f"),
  ("x/evm/tx_data_access_list.go:AccessListTx.GetAccessList", "6184aff2c699c3ce"),
  ("x/evm/tx_data_access_list.go:AccessListTx.GetChainID", "3f6ebe6708945d31"),
  ("x/evm/tx_data_access_list.go:AccessListTx.GetData", "d6d956404541b0e0"),
  ("x/evm/tx_data_access_list.go:AccessListTx.GetGas", "c7a83a81c451310e"),
  ("x/evm/tx_data_access_list.go:AccessListTx.GetGasFeeCapWei", "8e37be964ee37748"),
  ("x/evm/tx_data_access_list.go:AccessListTx.GetGasPrice", "145e6577965a9a29"),
  ("x/evm/tx_data_access_list.go:AccessListTx.GetGasTipCapWei", "19bc5a944659b1f3"),
  ("x/evm/tx_data_access_list.go:AccessListTx.GetNonce", "88a8cec44bd1f353"),
  ("x/evm/tx_data_access_list.go:AccessListTx.GetRawSignatureValues", "84f16875d91d7179"),
  ("x/evm/tx_data_access_list.go:AccessListTx.GetTo", "7a57388c1a12a7ca"),
  ("x/evm/tx_data_access_list.go:AccessListTx.GetValueWei", "28ddc691b84b351e"),
  ("x/evm/tx_data_access_list.go:AccessListTx.SetSignatureValues", "255123cf7fb5e80d"),
  ("x/evm/tx_data_access_list.go:AccessListTx.TxType", "a45932a63f9cdb58"),
  ("x/evm/tx_data_access_list.go:AccessListTx.Validate", "64ef877778111d7e"),
  ("x/evm/tx_data_access_list.go:NewAccessList", "f31b82a6c3b2087e"),
  ("x/evm/tx_data_access_list.go:newAccessListTx", "2590de5f18a183b3"),
  ("x/evm/tx_data_dynamic_fee.go:BigIntMax", "1b7ec85d94af96c8"),
  ("x/evm/tx_data_dynamic_fee.go:DynamicFeeTx.AsEthereumData", "cab94f9b652c1522"),
  ("x/evm/tx_data_dynamic_fee.go:DynamicFeeTx.Copy", "b48d1e769cf0d39f"),
  ("x/evm/tx_data_dynamic_fee.go:DynamicFeeTx.Cost", "a8e043f082d2fbdc"),
  ("x/evm/tx_data_dynamic_fee.go:DynamicFeeTx.EffectiveCostWei", "df30b6cb113a0834"),
  ("x/evm/tx_data_dynamic_fee.go:DynamicFeeTx.EffectiveFeeWei", "ace033dfbe4c72ca"),
  ("x/evm/tx_data_dynamic_fee.go:DynamicFeeTx.EffectiveGasFeeCapWei", "7e53ba168c715145"),
  ("x/evm/tx_data_dynamic_fee.go:DynamicFeeTx.EffectiveGasPriceWeiPerGas", "9ec4805fc8726f90"),
  ("x/evm/tx_data_dynamic_fee.go:DynamicFeeTx.Fee", "209470860815aac1"),
  ("x/evm/tx_data_dynamic_fee.go:DynamicFeeTx.GetAccessList", "e0eaeab1f4a58985"),
  ("x/evm/tx_data_dynamic_fee.go:DynamicFeeTx.GetChainID", "be95c5320e9045d6"),
  ("x/evm/tx_data_dynamic_fee.go:DynamicFeeTx.GetData", "1aa5d237640d72bb"),
  ("x/evm/tx_data_dynamic_fee.go:DynamicFeeTx.GetGas", "4d2654adb6a2c867"),
  ("x/evm/tx_data_dynamic_fee.go:DynamicFeeTx.GetGasFeeCapWei", "f76d76c0f20b763d"),
  ("x/evm/tx_data_dynamic_fee.go:DynamicFeeTx.GetGasPrice", "bc9eb19924e9d713"),
  ("x/evm/tx_data_dynamic_fee.go:DynamicFeeTx.GetGasTipCapWei", "a0f839c5fe49af49"),
  ("x/evm/tx_data_dynamic_fee.go:DynamicFeeTx.GetNonce", "015f62b73b654928"),
  ("x/evm/tx_data_dynamic_fee.go:DynamicFeeTx.GetRawSignatureValues", "853915edf7edbff0"),
  ("x/evm/tx_data_dynamic_fee.go:DynamicFeeTx.GetTo", "09b21da8373d1ecd"),
  ("x/evm/tx_data_dynamic_fee.go:DynamicFeeTx.GetValueWei", "2df289c144870b42"),
  ("x/evm/tx_data_dynamic_fee.go:DynamicFeeTx.SetSignatureValues", "6b39aa836fc9f2ef"),
  ("x/evm/tx_data_dynamic_fee.go:DynamicFeeTx.TxType", "5caa8ababefb8959"),
  ("x/evm/tx_data_dynamic_fee.go:DynamicFeeTx.Validate", "c02eca904aa8dbab"),
  ("x/evm/tx_data_dynamic_fee.go:NewDynamicFeeTx", "252127940ba6e617"),
  ("x/evm/tx_data_legacy.go:LegacyTx.AsEthereumData", "fcdb7178fa2c0dc4"),
  ("x/evm/tx_data_legacy.go:LegacyTx.Copy", "a3c4b39ac7149d5a"),
  ("x/evm/tx_data_legacy.go:LegacyTx.Cost", "e57216a87d8a2988"),
  ("x/evm/tx_data_legacy.go:LegacyTx.EffectiveCostWei", "51c7f1e04cff2d1a"),
  ("x/evm/tx_data_legacy.go:LegacyTx.EffectiveFeeWei", "da158d864f69bd79"),
  ("x/evm/tx_data_legacy.go:LegacyTx.EffectiveGasFeeCapWei", "4487326c02b63775"),
  ("x/evm/tx_data_legacy.go:LegacyTx.EffectiveGasPriceWeiPerGas", "a9230115ffb7664c"),
  ("x/evm/tx_data_legacy.go:LegacyTx.Fee", "e15ae67e840f5a86"),
  ("x/evm/tx_data_legacy.go:LegacyTx.GetAccessList", "687bb992b00ffbfc"),
  ("x/evm/tx_data_legacy.go:LegacyTx.GetChainID", "401bb1ca664e68a6"),
  ("x/evm/tx_data_legacy.go:LegacyTx.GetData", "3d15dd4129bf690c"),
  ("x/evm/tx_data_legacy.go:LegacyTx.GetGas", "390a27af8d22db19"),
  ("x/evm/tx_data_legacy.go:LegacyTx.GetGasFeeCapWei", "b51ecd7b58323642"),
  ("x/evm/tx_data_legacy.go:LegacyTx.GetGasPrice", "e195ad662a760f2d"),
  ("x/evm/tx_data_legacy.go:LegacyTx.GetGasTipCapWei", "397f1224689a0fe1"),
  ("x/evm/tx_data_legacy.go:LegacyTx.GetNonce", "b38888ecdac38d10"),
  ("x/evm/tx_data_legacy.go:LegacyTx.GetRawSignatureValues", "2f0bd57cd4b475e2"),
  ("x/evm/tx_data_legacy.go:LegacyTx.GetTo", "6d5a06ad1df49fbe"),
  ("x/evm/tx_data_legacy.go:LegacyTx.GetValueWei", "316c8809977674b9"),
  ("x/evm/tx_data_legacy.go:LegacyTx.SetSignatureValues", "d321d81ed252e483"),
  ("x/evm/tx_data_legacy.go:LegacyTx.TxType", "93e67309c43c81a3"),
  ("x/evm/tx_data_legacy.go:LegacyTx.Validate", "aff584d8bd76e628"),
  ("x/evm/tx_data_legacy.go:NewLegacyTx", "236aa0240ec24496")]

/-- 120 declarations -/
theorem fact_C05_surface_fingerprints : Generated.surface_C05 = expected_C05 := rfl

end Nibiru.Surface
